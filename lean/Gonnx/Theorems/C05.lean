import Gonnx.Ops.Conv
import Gonnx.Spec.Conv
import Gonnx.Proofs.Binary
import Gonnx.Proofs.Conv
/-
C05 — Conv equals direct convolution for every geometry, not only square ones.
Model: Gonnx/Ops/Conv.lean (mirrors ops/opset13/conv.go after the three `fix:` commits).
Spec: Gonnx/Spec/Conv.lean. The arithmetic is a parameter; the only laws used are those needed to
discard the zeros of the padding and of the dilated kernel.
-/
namespace Gonnx.C05
open Gonnx
variable {α : Type} [Inhabited α]

abbrev Pos := Proofs.Pos
abbrev Equiv {β : Type} [Inhabited β] := @Proofs.Equiv β _

-- `ZeroLaws` (the laws about zero that are used) and `dkernel` (the dilated kernel extents) are
-- defined, in this namespace, in Gonnx/Proofs/Conv.lean

-- concrete instance shared by the non-vacuity examples below: N = 2, C = 2, a 3×4 image, M = 2 kernels of 2×2, a bias
private def nv_A : Arith Int := ⟨0, (· + ·), (· * ·), (· - ·)⟩
private def nv_x : Tensor Int := ⟨[2, 2, 3, 4], (List.range 48).map (fun (n : Nat) => (n : Int) - 20)⟩
private def nv_w : Tensor Int := ⟨[2, 2, 2, 2], [1, 2, 3, 4, 5, 6, 7, 8, -1, 0, 1, 0, 2, -2, 3, -3]⟩
private def nv_bias : Tensor Int := ⟨[2], [100, 200]⟩

-- the proof does not use `hs`: truncating and natural division agree also for `s = 0`
set_option linter.unusedVariables false in
/-- **Output shape** of every explicit-padding geometry is the ONNX one:
`⌊(in + p_b + p_e − ((k−1)·d+1)) / s⌋ + 1` per spatial axis -/
theorem outdim_eq_spec (inD k d pb pe s : Nat) (hs : 0 < s) (hk : 0 < k) (hd : 0 < d)
    (hfit : (k - 1) * d + 1 ≤ inD + pb + pe) :
    convOutDim inD (k + (k - 1) * (d - 1)) pb pe s = (((inD + pb + pe - ((k - 1) * d + 1)) / s + 1 : Nat) : Int) :=
  Proofs.Conv.outdim_eq_spec inD k d pb pe s hk hd hfit

-- non-vacuity: input 7, kernel 3, dilation 2, pads 1 / 0, stride 2
example : convOutDim 7 (3 + (3 - 1) * (2 - 1)) ((1 : Nat) : Int) ((0 : Nat) : Int) 2 = (((7 + 1 + 0 - ((3 - 1) * 2 + 1)) / 2 + 1 : Nat) : Int) :=
  outdim_eq_spec 7 3 2 1 0 2 (by decide) (by decide) (by decide) (by decide)

-- the proof does not use `hd`, `hl`, `hpos`: inside the dilated shape the model's `ofFn` is read off as it is,
-- whatever the dilations and the kernel's extents
set_option linter.unusedVariables false in
/-- the dilated kernel holds the original taps at multiples of the dilation and zeros elsewhere -/
theorem dilatedKernel_get (zero : α) (w : Tensor α) (dil : List Nat) (hd : ∀ d ∈ dil, 0 < d)
    (hl : dil.length + 2 = w.shape.length) (hpos : Pos w.shape) (idx : List Nat)
    (hidx : InRange idx (dilatedKernel zero w dil).shape) :
    (dilatedKernel zero w dil).get idx =
      if ((idx.drop 2).zip dil).all (fun p => p.1 % p.2 = 0) then
        w.get (idx.take 2 ++ ((idx.drop 2).zip dil).map (fun p => p.1 / p.2))
      else zero :=
  Proofs.Conv.dilatedKernel_get zero w dil idx hidx

-- non-vacuity: the 2×2×2×2 kernel dilated by (2, 1), read at an in-range index
example : (dilatedKernel 0 nv_w [2, 1]).get [1, 0, 2, 1] =
      if (([1, 0, 2, 1].drop 2).zip [2, 1]).all (fun p => p.1 % p.2 = 0) then
        nv_w.get ([1, 0, 2, 1].take 2 ++ (([1, 0, 2, 1].drop 2).zip [2, 1]).map (fun p => p.1 / p.2))
      else 0 :=
  dilatedKernel_get 0 nv_w [2, 1] (by decide) (by decide) (by decide) [1, 0, 2, 1] (by decide)

-- the proof does not use `hl`, `hl'`: inside the padded shape the model's `ofFn` is read off as it is,
-- whatever the lengths of the pad lists
set_option linter.unusedVariables false in
/-- zero padding: inside the original extent the input value, outside zero -/
theorem padInput_get (zero : α) (x : Tensor α) (pb pe : List Nat)
    (hl : pb.length + 2 = x.shape.length) (hl' : pe.length = pb.length) (idx : List Nat)
    (hidx : InRange idx (padInput zero x pb pe).shape) :
    (padInput zero x pb pe).get idx =
      if ((idx.drop 2).zip ((x.shape.drop 2).zip pb)).all (fun p => p.2.2 ≤ p.1 ∧ p.1 < p.2.2 + p.2.1) then
        x.get (idx.take 2 ++ ((idx.drop 2).zip pb).map (fun p => p.1 - p.2))
      else zero :=
  Proofs.Conv.padInput_get zero x pb pe idx hidx

-- non-vacuity: the 2×2×3×4 input padded by (1, 0) before and (0, 2) after, read at an in-range index
example : (padInput 0 nv_x [1, 0] [0, 2]).get [1, 1, 3, 2] =
      if (([1, 1, 3, 2].drop 2).zip ((nv_x.shape.drop 2).zip [1, 0])).all (fun p => p.2.2 ≤ p.1 ∧ p.1 < p.2.2 + p.2.1) then
        nv_x.get ([1, 1, 3, 2].take 2 ++ (([1, 1, 3, 2].drop 2).zip [1, 0]).map (fun p => p.1 - p.2))
      else 0 :=
  padInput_get 0 nv_x [1, 0] [0, 2] (by decide) (by decide) [1, 1, 3, 2] (by decide)

/-- FALSE as first written (kept verbatim): auto_pad SAME_UPPER / SAME_LOWER give the ONNX pads whenever
the needed padding is not negative. It fails when an input extent is 0: Go computes
`(⌈0/s⌉ − 1)·s = −s` where the natural-number spec has `0`. -/
def autopad_eq_spec_statement : Prop :=
  ∀ (mode : String) (_hm : mode = "SAME_UPPER" ∨ mode = "SAME_LOWER")
    (inDims strides dk : List Nat) (_hl : strides.length = inDims.length) (_hl' : dk.length = inDims.length)
    (_hs : ∀ s ∈ strides, 0 < s)
    (_hneed : ∀ i, i < inDims.length → dim inDims i ≤ ((dim inDims i + dim strides i - 1) / dim strides i - 1) * dim strides i + dim dk i),
    autoPads mode inDims strides dk = (Spec.convPads mode [] inDims strides dk).map (fun (p : Nat) => (p : Int))

/-- witness: mode SAME_UPPER, input extent 0, stride 1, kernel extent 1: the model gives pads `[0, 0]`,
the spec `[0, 1]` -/
theorem autopad_eq_spec_counterexample : ¬ autopad_eq_spec_statement := by
  intro h
  have := h "SAME_UPPER" (Or.inl rfl) [0] [1] [1] rfl rfl (by simp)
    (by intro i hi; have : i = 0 := by simpa using hi
        subst this; decide)
  revert this
  decide

/-- auto_pad SAME_UPPER / SAME_LOWER give the ONNX pads whenever the needed padding is not negative
and every input extent is positive (`hInPos`) -/
theorem autopad_eq_spec_partial (mode : String) (hm : mode = "SAME_UPPER" ∨ mode = "SAME_LOWER")
    (inDims strides dk : List Nat) (hl : strides.length = inDims.length) (hl' : dk.length = inDims.length)
    (hs : ∀ s ∈ strides, 0 < s)
    (hneed : ∀ i, i < inDims.length → dim inDims i ≤ ((dim inDims i + dim strides i - 1) / dim strides i - 1) * dim strides i + dim dk i)
    (hInPos : ∀ d ∈ inDims, 0 < d) :
    autoPads mode inDims strides dk = (Spec.convPads mode [] inDims strides dk).map (fun (p : Nat) => (p : Int)) :=
  Proofs.Conv.autopad_eq_spec_partial mode hm inDims strides dk hl hl' hs hneed hInPos

-- non-vacuity: two spatial axes, extents 5 and 4, strides 2 and 1, dilated kernel extents 3 and 2
example : autoPads "SAME_LOWER" [5, 4] [2, 1] [3, 2] = (Spec.convPads "SAME_LOWER" [] [5, 4] [2, 1] [3, 2]).map (fun (p : Nat) => (p : Int)) :=
  autopad_eq_spec_partial "SAME_LOWER" (Or.inr rfl) [5, 4] [2, 1] [3, 2] (by decide) (by decide) (by decide) (by decide) (by decide)

-- the proof does not use `hWx`, `hWw`: both sides read the inputs through `Tensor.get` only
set_option linter.unusedVariables false in
/-- **Conv = direct convolution** (partial), 1-D and 2-D, any N, C, M, any (non-square) spatial and
kernel extents, strides, dilations and explicit asymmetric pads, with or without bias — under the
guards the code forces: every dilated kernel extent ≥ 2 (gorgonia drops extent-1 slice axes) and the
kernel fits the padded input. -/
theorem conv_explicit_partial (A : Arith α) (hA : ZeroLaws A) (x w : Tensor α) (bias : Option (Tensor α))
    (dil strides pads : List Nat)
    (hWx : x.WF) (hWw : w.WF) (hWb : ∀ b, bias = some b → b.WF)
    (hpx : Pos x.shape) (hpw : Pos w.shape)
    (hrank : x.shape.length = 3 ∨ x.shape.length = 4)
    (hdl : dil.length = x.shape.length - 2) (hsl : strides.length = x.shape.length - 2)
    (hpl : pads.length = 2 * (x.shape.length - 2))
    (hdp : ∀ d ∈ dil, 0 < d) (hsp : ∀ s ∈ strides, 0 < s)
    (hk2 : ∀ k ∈ dkernel w dil, 2 ≤ k)
    (s : Tensor α) (hs : Spec.conv A "NOTSET" dil strides pads x w bias = some s) :
    ∃ m, convOp A { autoPad := "NOTSET", dilations := dil, strides := strides, pads := pads.map (fun (p : Nat) => (p : Int)) } x w bias = .ok m ∧
      Equiv m s :=
  Proofs.Conv.conv_explicit_partial A hA x w bias dil strides pads hWb hpx hpw hrank hdl hsl hpl hdp hsp hk2 s hs

-- non-vacuity: N = 2, C = 2, M = 2, 3×4 image, 2×2 kernel, dilations (2, 1), strides (1, 2), pads 1 1 0 0, bias;
-- the dilated kernel extents are 3 and 2, the kernel fits: every hypothesis is discharged
example : ∃ m, convOp nv_A { autoPad := "NOTSET", dilations := [2, 1], strides := [1, 2], pads := [1, 1, 0, 0].map (fun (p : Nat) => (p : Int)) } nv_x nv_w (some nv_bias) = .ok m ∧
      Equiv m ⟨[2, 2, 2, 2], [4, -38, -36, -76, 212, 182, 216, 203, 292, 490, 444, 788, 140, 206, 96, 203]⟩ :=
  conv_explicit_partial nv_A ⟨Int.add_zero, Int.zero_mul, Int.mul_zero⟩ nv_x nv_w (some nv_bias) [2, 1] [1, 2] [1, 1, 0, 0]
    rfl rfl (by intro b h; cases h; rfl) (by decide) (by decide)
    (by decide) (by decide) (by decide) (by decide) (by decide) (by decide) (by decide) _ (by decide +kernel)

/-- the unguarded clause is false: a kernel of extent 1 with more than one channel is refused (known finding) -/
theorem conv_counterexample_kernel_extent_1 :
    convOp (⟨0, (· + ·), (· * ·), (· - ·)⟩ : Arith Int) {} ⟨[1, 2, 2, 2], [1, 2, 3, 4, 5, 6, 7, 8]⟩ ⟨[1, 2, 1, 1], [1, 1]⟩ none = .error .broadcast ∧
    (Spec.conv (⟨0, (· + ·), (· * ·), (· - ·)⟩ : Arith Int) "NOTSET" [] [] [] ⟨[1, 2, 2, 2], [1, 2, 3, 4, 5, 6, 7, 8]⟩ ⟨[1, 2, 1, 1], [1, 1]⟩ none).map (·.data) = some [6, 8, 10, 12] := by decide +kernel

/-- auto_pad = VALID is computed as SAME_UPPER (known finding, pinned by the unedited suite) -/
theorem conv_counterexample_valid :
    (convOp (⟨0, (· + ·), (· * ·), (· - ·)⟩ : Arith Int) { autoPad := "VALID" } ⟨[1, 1, 1, 3], [1, 2, 3]⟩ ⟨[1, 1, 1, 2], [1, 1]⟩ none).toOption.map (·.shape) ≠
    (Spec.conv (⟨0, (· + ·), (· * ·), (· - ·)⟩ : Arith Int) "VALID" [] [] [] ⟨[1, 1, 1, 3], [1, 2, 3]⟩ ⟨[1, 1, 1, 2], [1, 1]⟩ none).map (·.shape) := by decide +kernel

/-- ranks other than 3 and 4 are refused with an input error -/
theorem conv_refuses_rank (A : Arith α) (at0 : ConvAttrs) (x w : Tensor α) (bias : Option (Tensor α))
    (h : 4 < x.shape.length) : convOp A at0 x w bias = .error .inputInvalid :=
  Proofs.Conv.conv_refuses_rank A at0 x w bias h

-- non-vacuity: a rank-5 input
example : convOp nv_A {} ⟨[1, 1, 2, 2, 2], [1, 2, 3, 4, 5, 6, 7, 8]⟩ nv_w none = .error .inputInvalid :=
  conv_refuses_rank nv_A {} ⟨[1, 1, 2, 2, 2], [1, 2, 3, 4, 5, 6, 7, 8]⟩ nv_w none (by decide)

-- non-vacuity: a 2-D geometry with W > H, stride 2 on the width, asymmetric pads
example : (Spec.conv (⟨0, (· + ·), (· * ·), (· - ·)⟩ : Arith Int) "NOTSET" [1, 1] [1, 2] [0, 1, 0, 0]
    ⟨[1, 1, 2, 4], [1, 2, 3, 4, 5, 6, 7, 8]⟩ ⟨[1, 1, 2, 2], [1, 1, 1, 1]⟩ none).map (fun t => (t.shape, t.data)) = some ([1, 1, 1, 2], [6, 18]) := by decide +kernel

end Gonnx.C05
