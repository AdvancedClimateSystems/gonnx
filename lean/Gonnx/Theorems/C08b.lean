import Gonnx.Ops.Index
import Gonnx.Spec.Index
import Gonnx.Proofs.Index
import Gonnx.Proofs.Slice
/-
C08, second part — Slice on SEVERAL axes at once (any subset of the axes, in any order, negative
spellings of the AXES allowed), and Slice with the default axes / steps.

Negative spellings of starts / ends are NOT covered: `constructSlices` hands `starts[i]`, `ends[i]`
to gorgonia as they are, and gorgonia refuses a negative start and an end below the start
(`slice_multi_counterexample`, `slice_guard_*`).  The statement first drafted (guards without the
sign clauses and without the clause on an empty `axes`) is kept as `slice_multi_statement` and refuted.
-/
namespace Gonnx.C08
open Gonnx Gonnx.Proofs
variable {α : Type} [Inhabited α]

/-! ### the statement as first drafted, and its refutation -/

/-- the guards as first drafted: a positive step, a result extent ≥ 2 on every sliced axis, and on
axis 0 a step dividing the clamped extent -/
def SliceGuardsDraft (t : Tensor α) (starts ends axes steps : List Int) (s : Tensor α) : Prop :=
  ∀ i, i < axes.length →
    let a := (if axes.getD i 0 < 0 then axes.getD i 0 + (t.shape.length : Int) else axes.getD i 0).toNat
    1 ≤ steps.getD i 1 ∧ 2 ≤ dim s.shape a ∧
    (a = 0 → ∃ st e n, Spec.sliceAxis (dim t.shape 0) (starts.getD i 0) (ends.getD i 0) (steps.getD i 1) = some (st, e, n) ∧
      ((if (if ends.getD i 0 < 0 then ends.getD i 0 + (dim t.shape 0 : Int) else ends.getD i 0) > (dim t.shape 0 : Int) then (dim t.shape 0 : Int)
        else (if ends.getD i 0 < 0 then ends.getD i 0 + (dim t.shape 0 : Int) else ends.getD i 0)) - st) % steps.getD i 1 = 0)

/-- the drafted clause "with `SliceGuardsDraft` the operator returns the ONNX slice" -/
def slice_multi_statement : Prop :=
  ∀ (α : Type) [Inhabited α] (t : Tensor α) (starts ends axes steps : List Int),
    t.WF → Pos t.shape →
    ∀ s : Tensor α, Spec.slice t starts ends axes steps = some s →
      SliceGuardsDraft t starts ends axes steps s →
      ∃ m, sliceOp t starts ends (some axes) (some steps) = .ok m ∧ Equiv m s

/-- it is false: a negative start (here `-3` on an axis of extent 4, i.e. position 1) is defined by
ONNX and refused by gorgonia -/
theorem slice_multi_counterexample : ¬ slice_multi_statement := by
  intro h
  obtain ⟨m, hm, _⟩ := h Nat ⟨[4], [0, 1, 2, 3]⟩ [-3] [4] [0] [1]
    (by unfold Tensor.WF; decide) (by decide)
    ⟨[3], [1, 2, 3]⟩ (by decide)
    (by
      intro i hi
      have : i = 0 := by simpa using hi
      subst this
      exact ⟨by decide, by decide, fun _ => ⟨1, 1, 3, by decide, by decide⟩⟩)
  have : sliceOp (⟨[4], [0, 1, 2, 3]⟩ : Tensor Nat) [-3] [4] (some [0]) (some [1]) = .error .gorgonia := by
    decide
  rw [this] at hm
  cases hm

/-- the drafted clause is also false without any negative number: with an empty `axes` a tensor with
one element is collapsed to a scalar -/
theorem slice_multi_counterexample_empty_axes :
    SliceGuardsDraft (⟨[1, 1], [7]⟩ : Tensor Nat) [] [] [] [] ⟨[1, 1], [7]⟩ ∧
    Spec.slice (⟨[1, 1], [7]⟩ : Tensor Nat) [] [] [] [] = some ⟨[1, 1], [7]⟩ ∧
    sliceOp (⟨[1, 1], [7]⟩ : Tensor Nat) [] [] (some []) (some []) = .ok ⟨[], [7]⟩ :=
  ⟨fun i hi => absurd hi (by simp), by decide, by decide⟩

/-- the drafted clause for the default axes and steps -/
def slice_defaults_statement : Prop :=
  ∀ (α : Type) [Inhabited α] (t : Tensor α) (starts ends : List Int),
    t.WF → Pos t.shape →
    ∀ s : Tensor α,
      Spec.slice t starts ends ((List.range starts.length).map fun (i : Nat) => (i : Int))
        (List.replicate starts.length 1) = some s →
      SliceGuardsDraft t starts ends ((List.range starts.length).map fun (i : Nat) => (i : Int))
        (List.replicate starts.length 1) s →
      ∃ m, sliceOp t starts ends none none = .ok m ∧ Equiv m s

theorem slice_defaults_counterexample : ¬ slice_defaults_statement := by
  intro h
  obtain ⟨m, hm, _⟩ := h Nat ⟨[4], [0, 1, 2, 3]⟩ [-3] [4]
    (by unfold Tensor.WF; decide) (by decide)
    ⟨[3], [1, 2, 3]⟩ (by decide)
    (by
      intro i hi
      have : i = 0 := by simpa using hi
      subst this
      exact ⟨by decide, by decide, fun _ => ⟨1, 1, 3, by decide, by decide⟩⟩)
  have : sliceOp (⟨[4], [0, 1, 2, 3]⟩ : Tensor Nat) [-3] [4] none none = .error .gorgonia := by
    decide
  rw [this] at hm
  cases hm

/-! ### the corrected guards -/

/-- The guards the code forces on a Slice request whose ONNX result is `s`.  On the grid (ranks 1–3,
extents 1–4, every subset / order / spelling of the axes, starts and ends from below `-extent` to
beyond `extent`, steps `-2 … 3`) they hold exactly when the operator returns `s`.

* `axes = [] → t.shape = [] ∨ 2 ≤ prod t.shape` — gorgonia collapses a selection of exactly one
  element to a scalar.  With a sliced axis of extent ≥ 2 that cannot happen, whatever the unsliced
  extents are; with no sliced axis it happens for an input with one element and rank ≥ 1: shape
  `[1]`, no axes: ONNX `[1]`, operator `[]` (`slice_guard_empty_axes`).
* for every position `i` of `axes`, naming axis `a`:
  * `1 ≤ steps[i]` — a negative step is handed to gorgonia, which refuses `start > end`: shape `[4]`,
    start 3, end 0, step -1: ONNX `[3, 2, 1]`, operator error (`slice_guard_step`).
  * `0 ≤ starts[i]` — a negative start is not offset by the extent: shape `[4]`, start -3, end 4:
    ONNX `[1, 2, 3]`, operator error (`slice_guard_start`).
  * `0 ≤ ends[i]` — neither is a negative end: shape `[4]`, start 0, end -1: ONNX `[0, 1, 2]`,
    operator error (`slice_guard_end`).
  * `2 ≤ dim s.shape a` — gorgonia drops a sliced axis of extent 1 (`slice_counterexample_extent1`);
    an empty result is not modelled.  (Together with the two sign clauses this forces
    `starts[i] < min(ends[i], dim t.shape a)`.)
  * on axis 0 the step divides `min(ends[i], dim t.shape 0) - starts[i]` — otherwise gorgonia rounds
    the extent down instead of up (`slice_counterexample_axis0_step`). -/
def SliceGuards (t : Tensor α) (starts ends axes steps : List Int) (s : Tensor α) : Prop :=
  (axes = [] → t.shape = [] ∨ 2 ≤ prod t.shape) ∧
  ∀ i, i < axes.length →
    let a := (if axes.getD i 0 < 0 then axes.getD i 0 + (t.shape.length : Int) else axes.getD i 0).toNat
    1 ≤ steps.getD i 1 ∧ 0 ≤ starts.getD i 0 ∧ 0 ≤ ends.getD i 0 ∧ 2 ≤ dim s.shape a ∧
    (a = 0 → ((if ends.getD i 0 > (dim t.shape 0 : Int) then (dim t.shape 0 : Int) else ends.getD i 0)
      - starts.getD i 0) % steps.getD i 1 = 0)

-- the proof does not use `hW`: the result is tabulated (`ofFn`), hence dense, whatever the input
set_option linter.unusedVariables false in
/-- **Slice on several axes** (partial): whenever ONNX defines the slice (`Spec.slice … = some s`) and
the guards above hold on every sliced axis, the operator returns it. -/
theorem slice_multi_partial (t : Tensor α) (starts ends axes steps : List Int)
    (hW : t.WF) (hpos : Pos t.shape)
    (s : Tensor α) (hs : Spec.slice t starts ends axes steps = some s)
    (hg : SliceGuards t starts ends axes steps s) :
    ∃ m, sliceOp t starts ends (some axes) (some steps) = .ok m ∧ Equiv m s :=
  Proofs.Slice.slice_multi t starts ends axes steps hpos s hs hg.1 hg.2

-- non-vacuity: a 3×4 tensor, axes [-1, 0]: columns 1, 3 of rows 1, 2 — every hypothesis is discharged
private def nv_m : Tensor Nat := ⟨[3, 4], List.range 12⟩
example : ∃ m, sliceOp nv_m [1, 1] [9, 3] (some [-1, 0]) (some [2, 1]) = .ok m ∧ Equiv m ⟨[2, 2], [5, 7, 9, 11]⟩ :=
  slice_multi_partial nv_m [1, 1] [9, 3] [-1, 0] [2, 1] rfl (by decide) _ (by decide) (by unfold SliceGuards; decide)

-- the proof does not use `hW`, for the same reason
set_option linter.unusedVariables false in
/-- default axes (`0 … len(starts)-1`) and default steps (all 1) -/
theorem slice_defaults_partial (t : Tensor α) (starts ends : List Int)
    (hW : t.WF) (hpos : Pos t.shape)
    (s : Tensor α)
    (hs : Spec.slice t starts ends ((List.range starts.length).map fun (i : Nat) => (i : Int)) (List.replicate starts.length 1) = some s)
    (hg : SliceGuards t starts ends ((List.range starts.length).map fun (i : Nat) => (i : Int)) (List.replicate starts.length 1) s) :
    ∃ m, sliceOp t starts ends none none = .ok m ∧ Equiv m s :=
  Proofs.Slice.slice_multi t starts ends _ _ hpos s hs hg.1 hg.2

-- non-vacuity: default axes and steps on the same tensor: rows 1..2, columns 1..3
example : ∃ m, sliceOp nv_m [1, 1] [3, 4] none none = .ok m ∧ Equiv m ⟨[2, 3], [5, 6, 7, 9, 10, 11]⟩ :=
  slice_defaults_partial nv_m [1, 1] [3, 4] rfl (by decide) _ (by decide) (by unfold SliceGuards; decide)

/-! ### every clause of the guards is needed -/

theorem slice_guard_empty_axes :
    (sliceOp (⟨[1], [7]⟩ : Tensor Nat) [] [] (some []) (some [])).toOption.map (·.shape) = some [] ∧
    (Spec.slice (⟨[1], [7]⟩ : Tensor Nat) [] [] [] []).map (·.shape) = some [1] := by decide

theorem slice_guard_step :
    sliceOp (⟨[4], [0, 1, 2, 3]⟩ : Tensor Nat) [3] [0] (some [0]) (some [-1]) = .error .gorgonia ∧
    (Spec.slice (⟨[4], [0, 1, 2, 3]⟩ : Tensor Nat) [3] [0] [0] [-1]).map (·.data) = some [3, 2, 1] := by decide

theorem slice_guard_start :
    sliceOp (⟨[4], [0, 1, 2, 3]⟩ : Tensor Nat) [-3] [4] (some [0]) (some [1]) = .error .gorgonia ∧
    (Spec.slice (⟨[4], [0, 1, 2, 3]⟩ : Tensor Nat) [-3] [4] [0] [1]).map (·.data) = some [1, 2, 3] := by decide

theorem slice_guard_end :
    sliceOp (⟨[4], [0, 1, 2, 3]⟩ : Tensor Nat) [0] [-1] (some [0]) (some [1]) = .error .gorgonia ∧
    (Spec.slice (⟨[4], [0, 1, 2, 3]⟩ : Tensor Nat) [0] [-1] [0] [1]).map (·.data) = some [0, 1, 2] := by decide

/-- unsliced axes of extent 1 and a sliced axis next to them do no harm: no scalar collapse -/
theorem slice_unsliced_extent1 :
    sliceOp (⟨[1, 4, 1], [0, 1, 2, 3]⟩ : Tensor Nat) [1] [9] (some [-2]) (some [2]) = .ok ⟨[1, 2, 1], [1, 3]⟩ ∧
    Spec.slice (⟨[1, 4, 1], [0, 1, 2, 3]⟩ : Tensor Nat) [1] [9] [-2] [2] = some ⟨[1, 2, 1], [1, 3]⟩ := by decide

/-- duplicate axes are refused by ONNX (`hs` excludes them); the operator keeps the last one -/
theorem slice_duplicate_axes :
    Spec.slice (⟨[4], [0, 1, 2, 3]⟩ : Tensor Nat) [0, 1] [2, 4] [0, -1] [1, 1] = none ∧
    (sliceOp (⟨[4], [0, 1, 2, 3]⟩ : Tensor Nat) [0, 1] [2, 4] (some [0, -1]) (some [1, 1])).toOption.map (·.data)
      = some [1, 2, 3] := by decide

/-! ### non-vacuity -/

-- a 3×4 tensor, axes [-1, 0]: columns 1, 3 of rows 1, 2
example :
    Spec.slice (⟨[3, 4], List.range 12⟩ : Tensor Nat) [1, 1] [9, 3] [-1, 0] [2, 1] = some ⟨[2, 2], [5, 7, 9, 11]⟩ ∧
    SliceGuards (⟨[3, 4], List.range 12⟩ : Tensor Nat) [1, 1] [9, 3] [-1, 0] [2, 1] ⟨[2, 2], [5, 7, 9, 11]⟩ ∧
    sliceOp (⟨[3, 4], List.range 12⟩ : Tensor Nat) [1, 1] [9, 3] (some [-1, 0]) (some [2, 1]) = .ok ⟨[2, 2], [5, 7, 9, 11]⟩ := by
  unfold SliceGuards
  decide +kernel

-- a 4×3 tensor, axes [0, 1], step 2 on axis 0 (it divides the extent): rows 0, 2, columns 0, 1
example :
    Spec.slice (⟨[4, 3], List.range 12⟩ : Tensor Nat) [0, 0] [4, 2] [0, 1] [2, 1] = some ⟨[2, 2], [0, 1, 6, 7]⟩ ∧
    SliceGuards (⟨[4, 3], List.range 12⟩ : Tensor Nat) [0, 0] [4, 2] [0, 1] [2, 1] ⟨[2, 2], [0, 1, 6, 7]⟩ ∧
    sliceOp (⟨[4, 3], List.range 12⟩ : Tensor Nat) [0, 0] [4, 2] (some [0, 1]) (some [2, 1]) = .ok ⟨[2, 2], [0, 1, 6, 7]⟩ := by
  unfold SliceGuards
  decide +kernel

-- default axes and steps on the same tensor: rows 1..2, columns 1..3
example :
    Spec.slice (⟨[3, 4], List.range 12⟩ : Tensor Nat) [1, 1] [3, 4] [0, 1] [1, 1] = some ⟨[2, 3], [5, 6, 7, 9, 10, 11]⟩ ∧
    SliceGuards (⟨[3, 4], List.range 12⟩ : Tensor Nat) [1, 1] [3, 4]
      ((List.range 2).map fun (i : Nat) => (i : Int)) (List.replicate 2 1) ⟨[2, 3], [5, 6, 7, 9, 10, 11]⟩ ∧
    sliceOp (⟨[3, 4], List.range 12⟩ : Tensor Nat) [1, 1] [3, 4] none none = .ok ⟨[2, 3], [5, 6, 7, 9, 10, 11]⟩ := by
  unfold SliceGuards
  decide +kernel

end Gonnx.C08
