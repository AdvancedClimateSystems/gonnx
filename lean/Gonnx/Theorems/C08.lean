import Gonnx.Ops.Index
import Gonnx.Spec.Index
import Gonnx.Proofs.Index
import Gonnx.Proofs.Slice
/-
C08 — Transpose, Concat, Slice, Gather, Expand select exactly the ONNX-indexed data.
Model: Gonnx/Ops/Index.lean + gorgonia kernel models in Gonnx/Kernel.lean. Spec: Gonnx/Spec/Index.lean.
`Equiv s t`: same shape, both dense, equal at every in-range index.
-/
namespace Gonnx.C08
open Gonnx
variable {α : Type} [Inhabited α]

abbrev Pos := Proofs.Pos
abbrev Equiv {β : Type} [Inhabited β] := @Proofs.Equiv β _

/-- a 1-D int64 tensor -/
def vec (l : List Int) : Tensor Int := ⟨[l.length], l⟩

-- concrete tensors shared by the non-vacuity examples below
private def nv_t : Tensor Nat := ⟨[2, 3, 2], List.range 12⟩
private def nv_m : Tensor Nat := ⟨[3, 4], List.range 12⟩
private def nv_a : Tensor Nat := ⟨[2, 3], [1, 2, 3, 4, 5, 6]⟩
private def nv_b : Tensor Nat := ⟨[2, 2], [7, 8, 9, 10]⟩

/-- **Transpose**: for every permutation the operator returns the ONNX result -/
theorem transpose_eq_spec (t : Tensor α) (perm : List Int) (hp : Spec.isPerm t.shape.length perm = true) :
    ∃ s, Spec.transpose t perm = some s ∧ transposeOp t perm = .ok s :=
  Proofs.Index.transpose_eq_spec t perm hp

-- non-vacuity: a 2×3×2 tensor, the cyclic permutation (2, 0, 1)
example : ∃ s, Spec.transpose nv_t [2, 0, 1] = some s ∧ transposeOp nv_t [2, 0, 1] = .ok s :=
  transpose_eq_spec nv_t [2, 0, 1] (by decide)
example : transposeOp nv_t [2, 0, 1] = .ok ⟨[2, 2, 3], [0, 2, 4, 6, 8, 10, 1, 3, 5, 7, 9, 11]⟩ := by decide

/-- a pattern of the wrong length is refused -/
theorem transpose_wrong_length (t : Tensor α) (perm : List Int) (h : perm.length ≠ t.shape.length) :
    transposeOp t perm = .error .gorgonia ∧ Spec.transpose t perm = none :=
  Proofs.Index.transpose_wrong_length t perm h

-- non-vacuity: a pattern of length 2 for a rank-3 tensor
example : transposeOp nv_t [1, 0] = .error .gorgonia ∧ Spec.transpose nv_t [1, 0] = none :=
  transpose_wrong_length nv_t [1, 0] (by decide)

/-- **Gather**: along any axis, index tensors of any rank, negative indices: the ONNX formula;
out-of-range axis or index: the axis error -/
theorem gather_eq_spec (data : Tensor α) (indices : Tensor Int) (axis : Int) :
    (gatherOp data indices axis).toOption = Spec.gather data indices axis :=
  Proofs.Index.gather_eq_spec data indices axis

theorem gather_error (data : Tensor α) (indices : Tensor Int) (axis : Int)
    (h : Spec.gather data indices axis = none) : gatherOp data indices axis = .error .axis :=
  Proofs.Index.gather_error data indices axis h

-- non-vacuity: index 3 on an axis of extent 3
example : gatherOp nv_t ⟨[2], [0, 3]⟩ 1 = .error .axis :=
  gather_error nv_t ⟨[2], [0, 3]⟩ 1 (by decide)

-- the proof does not use `hW`: the result is tabulated (`ofFn`), hence dense, whatever the inputs
set_option linter.unusedVariables false in
/-- **Concat** of two or more inputs along any valid (possibly negative) axis -/
theorem concat_eq_spec (axis : Int) (ts : List (Tensor α)) (hn : 2 ≤ ts.length)
    (hW : ∀ t ∈ ts, t.WF) (s : Tensor α) (hs : Spec.concat axis ts = some s) :
    ∃ m, concatOp axis ts = .ok m ∧ Equiv m s :=
  Proofs.Index.concat_eq_spec axis ts hn s hs

-- non-vacuity: 2×3 and 2×2 along axis -1
example : ∃ m, concatOp (-1) [nv_a, nv_b] = .ok m ∧ Equiv m ⟨[2, 5], [1, 2, 3, 7, 8, 4, 5, 6, 9, 10]⟩ :=
  concat_eq_spec (-1) [nv_a, nv_b] (by decide) (by intro t ht; simp at ht; rcases ht with rfl | rfl <;> rfl) _ (by decide)

/-- an invalid request with two or more inputs never yields a tensor -/
theorem concat_refuses (axis : Int) (ts : List (Tensor α)) (hn : 2 ≤ ts.length)
    (hs : Spec.concat axis ts = none) : ∀ m, concatOp axis ts ≠ .ok m :=
  Proofs.Index.concat_refuses axis ts hn hs

-- non-vacuity: 2×3 and 2×2 along axis 0 (they differ off the axis)
example : ∀ m, concatOp 0 [nv_a, nv_b] ≠ .ok m :=
  concat_refuses 0 [nv_a, nv_b] (by decide) (by decide)

/-- a single input is returned as is (for a valid axis this is the ONNX result) -/
theorem concat_single (axis : Int) (t : Tensor α) : concatOp axis [t] = .ok t := rfl

/-- **Expand** (partial): a compatible target with at least as many axes as the input gives the
two-way broadcast -/
theorem expand_partial (t : Tensor α) (target : List Nat) (hpos : Pos t.shape) (htpos : Pos target)
    (hW : t.WF) (hlen : t.shape.length ≤ target.length) (s : Tensor α)
    (hs : Spec.expand t target = some s) :
    ∃ m, expandOp t (target.map fun (d : Nat) => (d : Int)) = .ok m ∧ Equiv m s :=
  Proofs.Index.expand_partial t target hpos htpos hW hlen s hs

-- non-vacuity: a 2×1 column expanded to 3×2×2 (one axis added, one stretched)
example : ∃ m, expandOp (⟨[2, 1], [5, 6]⟩ : Tensor Nat) ([3, 2, 2].map fun (d : Nat) => (d : Int)) = .ok m ∧
      Equiv m ⟨[3, 2, 2], [5, 5, 6, 6, 5, 5, 6, 6, 5, 5, 6, 6]⟩ :=
  expand_partial ⟨[2, 1], [5, 6]⟩ [3, 2, 2] (by decide) (by decide) rfl (by decide) _ (by decide)

/-- the clause "an incompatible target is refused" is false: it is computed (known finding) -/
theorem expand_counterexample_incompatible :
    (expandOp (⟨[3], [1, 2, 3]⟩ : Tensor Nat) [2]).toOption.map (·.shape) = some [6] ∧
    Spec.expand (⟨[3], [1, 2, 3]⟩ : Tensor Nat) [2] = none := by decide

/-- a shorter target is compared left-aligned (known finding) -/
theorem expand_counterexample_shorter :
    (expandOp (⟨[3, 4], List.range 12⟩ : Tensor Nat) [4]).toOption.map (·.shape) = some [12, 4] ∧
    (Spec.expand (⟨[3, 4], List.range 12⟩ : Tensor Nat) [4]).map (·.shape) = some [3, 4] := by decide

-- the proof does not use `hW`, `hax`, `hsd`: the result is tabulated (`ofFn`), hence dense, whatever the input;
-- an axis out of range has no ONNX slice (`hs`), and an ONNX extent ≥ 2 (`hext`) puts the start below the extent.
-- The statement is `C08.slice_multi_partial` for one axis.
set_option linter.unusedVariables false in
/-- **Slice on one axis** (partial): non-negative start below min(end, dim), step ≥ 1, and — the
guards the code forces — a result extent ≥ 2 on the sliced axis and, on axis 0, a step that divides
the (clamped) extent: then the operator returns the ONNX slice. -/
theorem slice_one_axis_partial (t : Tensor α) (ax : Nat) (start stop step : Int)
    (hW : t.WF) (hpos : Pos t.shape) (hax : ax < t.shape.length)
    (hs0 : 0 ≤ start) (hsd : start < dim t.shape ax) (hse : start < stop) (hst : 1 ≤ step)
    (s : Tensor α) (hs : Spec.slice t [start] [stop] [(ax : Int)] [step] = some s)
    (hext : 2 ≤ dim s.shape ax)
    (hax0 : ax = 0 → ((if stop > dim t.shape 0 then (dim t.shape 0 : Int) else stop) - start) % step = 0) :
    ∃ m, sliceOp t [start] [stop] (some [(ax : Int)]) (some [step]) = .ok m ∧ Equiv m s := by
  have hn : Proofs.natAxis t.shape.length (ax : Int) = ax := by
    unfold Proofs.natAxis; rw [if_neg (by omega)]; simp
  apply Proofs.Slice.slice_multi t _ _ _ _ hpos s hs (fun h => by cases h)
  intro i hi
  have : i = 0 := by simpa using hi
  subst this
  simp only [List.getD_cons_zero, hn]
  exact ⟨hst, hs0, by omega, hext, hax0⟩

-- non-vacuity: a 3×4 tensor, axis 1, 1:9:2 (end clamped) …
example : ∃ m, sliceOp nv_m [1] [9] (some [((1 : Nat) : Int)]) (some [2]) = .ok m ∧ Equiv m ⟨[3, 2], [1, 3, 5, 7, 9, 11]⟩ :=
  slice_one_axis_partial nv_m 1 1 9 2 rfl (by decide) (by decide) (by decide) (by decide) (by decide) (by decide)
    _ (by decide) (by decide) (by decide)
-- … and a 4×3 tensor, axis 0, 0:9:2 (the step divides the clamped extent: `hax0` is not vacuous here)
example : ∃ m, sliceOp (⟨[4, 3], List.range 12⟩ : Tensor Nat) [0] [9] (some [((0 : Nat) : Int)]) (some [2]) = .ok m ∧ Equiv m ⟨[2, 3], [0, 1, 2, 6, 7, 8]⟩ :=
  slice_one_axis_partial ⟨[4, 3], List.range 12⟩ 0 0 9 2 rfl (by decide) (by decide) (by decide) (by decide) (by decide) (by decide)
    _ (by decide) (by decide) (by decide)

/-- the unguarded clause "every sliced axis is kept even when its extent becomes 1" is false -/
theorem slice_counterexample_extent1 :
    (sliceOp (⟨[3, 4], List.range 12⟩ : Tensor Nat) [0] [1] (some [0]) (some [1])).toOption.map (·.shape) = some [4] ∧
    (Spec.slice (⟨[3, 4], List.range 12⟩ : Tensor Nat) [0] [1] [0] [1]).map (·.shape) = some [1, 4] := by decide

/-- on axis 0 a step that does not divide the extent loses the last position -/
theorem slice_counterexample_axis0_step :
    (sliceOp (⟨[5], [0, 1, 2, 3, 4]⟩ : Tensor Nat) [0] [5] (some [0]) (some [2])).toOption.map (·.data) = some [0, 2] ∧
    (Spec.slice (⟨[5], [0, 1, 2, 3, 4]⟩ : Tensor Nat) [0] [5] [0] [2]).map (·.data) = some [0, 2, 4] := by decide

/-- an axis outside [-rank, rank) panics instead of being refused with an error -/
theorem slice_counterexample_axis_panics :
    sliceOp (⟨[3], [0, 1, 2]⟩ : Tensor Nat) [0] [1] (some [1]) (some [1]) = .error .panic := by decide

-- non-vacuity
example : (Spec.slice (⟨[2, 5], List.range 10⟩ : Tensor Nat) [1] [9] [1] [2]).map (·.data) = some [1, 3, 6, 8] ∧
    (Spec.gather (⟨[3], [7, 8, 9]⟩ : Tensor Nat) ⟨[2], [-1, 0]⟩ 0).map (·.data) = some [9, 7] ∧
    (Spec.transpose (⟨[2, 3], List.range 6⟩ : Tensor Nat) [1, 0]).map (·.data) = some [0, 3, 1, 4, 2, 5] := by decide

end Gonnx.C08
