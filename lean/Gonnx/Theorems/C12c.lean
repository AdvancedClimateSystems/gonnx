import Gonnx.Graph.NewModel
import Gonnx.Theorems.C12
/-
C12c — the initializer LIST: `Params` succeeds exactly when every initializer decodes, delivers the
per-initializer decodings in order, and otherwise reports the error of the FIRST initializer that does not
decode - wherever it stands in the list and whatever follows it. Lifted to `NewModel`.
-/
namespace Gonnx.C12
open Gonnx

/-- `Params` succeeds iff every initializer decodes, and then holds exactly the decodings, in order. -/
theorem decodeParams_ok_iff (l : List TensorProtoM) (ds : List Decoded) :
    decodeParams l = .ok ds ↔ l.map decode = ds.map .ok := by
  rw [Proofs.Decode.decodeParams_eq_mapM]
  exact Proofs.mapM_ok_iff decode l ds

/-- One initializer that does not decode - at ANY position, whatever stands before and behind it - makes
`Params` fail: it is never skipped, defaulted or left to the outcome of a later initializer. -/
theorem decodeParams_error_of_mem (l : List TensorProtoM) (tp : TensorProtoM) (e : Err)
    (hm : tp ∈ l) (hd : decode tp = .error e) : ∃ e', decodeParams l = .error e' := by
  cases h : decodeParams l with
  | error e' => exact ⟨e', rfl⟩
  | ok ds =>
    obtain ⟨d, _, hok⟩ := Proofs.mapM_ok_of_mem decode l ds (Proofs.Decode.decodeParams_eq_mapM l ▸ h) tp hm
    rw [hd] at hok
    cases hok

/-- … and the error reported is the one of the FIRST initializer that does not decode. -/
theorem decodeParams_first_error (pre : List TensorProtoM) (tp : TensorProtoM) (post : List TensorProtoM) (e : Err)
    (hpre : ∀ q ∈ pre, ∃ d, decode q = .ok d) (hd : decode tp = .error e) :
    decodeParams (pre ++ tp :: post) = .error e := by
  rw [Proofs.Decode.decodeParams_eq_mapM]
  exact Proofs.mapM_first_error decode pre tp post e hpre hd

/-- Lifted to loading: a model whose graph holds an initializer that does not decode is refused, whatever
its opset imports and its other initializers are. -/
theorem newModel_error_of_bad_initializer (supported : List Int) (mp : ModelProtoM) (tp : TensorProtoM) (e : Err)
    (hg : mp.hasGraph = true) (hm : tp ∈ mp.initializers) (hd : decode tp = .error e) :
    ∃ e', newModel supported mp = .error e' := by
  obtain ⟨e', he⟩ := decodeParams_error_of_mem mp.initializers tp e hm hd
  exact ⟨e', by rw [Proofs.Decode.newModel_eq, if_pos hg, he]; rfl⟩

-- non-vacuity: three initializers, the middle one with 3 floats for dims [2]; the last one is well-formed
private def nv_good1 : TensorProtoM := { dataType := 1, dims := [2], floatData := [1065353216, 0] }
private def nv_bad : TensorProtoM := { dataType := 1, dims := [2], floatData := [1, 2, 3] }
private def nv_good2 : TensorProtoM := { dataType := 7, dims := [1], int64Data := [4] }
example : decode nv_bad = .error .shape := by decide
example : decode nv_good2 = .ok ⟨.i64, [1], [4]⟩ := by decide
example : ∃ e', newModel [13] { initializers := [nv_good1, nv_bad, nv_good2], opsetVersions := [13] } = .error e' :=
  newModel_error_of_bad_initializer [13] _ nv_bad .shape rfl (by simp) (by decide)
example : decodeParams [nv_good1, nv_good2] = .ok [⟨.f32, [2], [1065353216, 0]⟩, ⟨.i64, [1], [4]⟩] := by decide

end Gonnx.C12

