import Gonnx.Theorems.C18
/-
C18b — the version a model is judged by is a function of the SET of imported versions: the highest one
(0 when there is none), whatever the order of the `opset_import` entries, however often a version or a
domain is repeated, whichever entry comes last.
-/
namespace Gonnx.C18
open Gonnx

/-- **characterisation**: `m` is the version the model is judged by iff it bounds every imported version
and 0 from above and is 0 or an imported version -/
theorem opsetOf_eq_iff (vs : List Int) (m : Int) :
    opsetOf vs = m ↔ ((∀ v ∈ vs, v ≤ m) ∧ 0 ≤ m ∧ (m = 0 ∨ m ∈ vs)) := by
  rw [← Option.some_inj, opsetOf_eq_max?, List.max?_eq_some_iff, List.mem_cons, List.forall_mem_cons]
  exact ⟨fun ⟨hm, h0, hub⟩ => ⟨hub, h0, hm⟩, fun ⟨hub, h0, hm⟩ => ⟨hm, h0, hub⟩⟩

/-- **order and repetition do not matter**: two import lists with the same set of versions are judged by
the same version (permutations, duplicated entries, a repeated domain whose entries disagree) -/
theorem opsetOf_congr (vs ws : List Int) (h : ∀ v, v ∈ vs ↔ v ∈ ws) : opsetOf vs = opsetOf ws := by
  -- the characterisation reads `vs` through membership only
  rw [opsetOf_eq_iff]
  simp only [h]
  exact (opsetOf_eq_iff ws _).1 rfl

theorem opsetOf_perm (vs ws : List Int) (h : vs.Perm ws) : opsetOf vs = opsetOf ws :=
  opsetOf_congr vs ws (fun _ => h.mem_iff)

/-- a version above 13 anywhere among the imports makes the load fail (the version the model is judged by is
then above 13 too), whatever follows it (in particular a later entry with the implemented version for the
same domain) -/
theorem higher_import_refused (mp : ModelProtoM) (ps : List Decoded) (v : Int)
    (hd : decodeParams (if mp.hasGraph then mp.initializers else []) = .ok ps)
    (hv : v ∈ mp.opsetVersions) (h13 : 13 < v) :
    newModel Generated.supportedOpsets mp = .error .unsupportedOpset := by
  apply not_13_refused mp ps hd
  have := (opsetOf_is_max mp.opsetVersions).1 v hv
  omega

-- non-vacuity: ("", 14) before ("", 13); ("ai.onnx", 15), ("", 13); three entries
example : opsetOf [14, 13] = opsetOf [13, 14] := opsetOf_perm _ _ (List.Perm.swap 13 14 [])
example : opsetOf [21, 13, 13] = opsetOf [13, 21] := opsetOf_congr _ _ (by intro v; simp; omega)
example : newModel Generated.supportedOpsets { opsetVersions := [15, 13] } = .error .unsupportedOpset :=
  higher_import_refused { opsetVersions := [15, 13] } [] 15 (by decide) (by decide) (by decide)

end Gonnx.C18
