import Gonnx.Theorems.C13
import Gonnx.Proofs.Assoc
/-
C13b — rejection, stated outright, and independence of the iteration order. `Model.validateShapes` ranges
over a Go map (random order) and stops at the first offending input; whichever input is met first, the
outcome (accept / refuse) is the same: it is a function of the SET of declared inputs.
-/
namespace Gonnx.C13
open Gonnx

/-- **Wrong rank is refused**: a required input supplied with another rank than declared makes Run fail,
whatever the other inputs are and wherever this input stands among the declarations. -/
theorem wrong_rank_rejected (decls : List InputDecl) (params : List String) (ins : List (String × List Nat))
    (e : String × List DimDecl) (he : e ∈ inputShapes decls) (hp : e.1 ∉ params)
    (shape : List Nat) (hl : ins.lookup e.1 = some shape) (hr : shape.length ≠ e.2.length) :
    validateShapes decls params ins = .error .model :=
  validate_rejects decls params ins e he hp fun s hs hsat => by
    rw [hl] at hs; cases hs; exact hr hsat.1

/-- **A wrong fixed dimension is refused**: position `i` is declared with the fixed size `d.size`
(not dynamic) and the supplied tensor has another extent there. -/
theorem wrong_fixed_dim_rejected (decls : List InputDecl) (params : List String) (ins : List (String × List Nat))
    (e : String × List DimDecl) (he : e ∈ inputShapes decls) (hp : e.1 ∉ params)
    (shape : List Nat) (hl : ins.lookup e.1 = some shape)
    (i : Nat) (hi : i < e.2.length) (hi' : i < shape.length)
    (hfix : e.2[i].isDynamic = false) (hne : e.2[i].size ≠ (shape[i] : Int)) :
    validateShapes decls params ins = .error .model :=
  validate_rejects decls params ins e he hp fun s hs hsat => by
    rw [hl] at hs; cases hs; exact hne (hsat.2 i hi hi' hfix)

/-- **Order independence**: the declarations in any other order (the Go map is ranged over in random
order, and the loop returns at the first offending input) give the same outcome. -/
theorem validate_order_independent (decls decls' : List InputDecl) (params : List String)
    (ins : List (String × List Nat)) (h : decls.Perm decls') :
    validateShapes decls params ins = validateShapes decls' params ins := by
  unfold validateShapes inputShapes
  rw [(h.filterMap _).all_eq]

/-- … and so does the supplied set in any other order, when no name is supplied twice (a Go map has no
duplicate keys). -/
theorem validate_supplied_order_independent (decls : List InputDecl) (params : List String)
    (ins ins' : List (String × List Nat)) (h : ins.Perm ins') (hnd : (ins.map (·.1)).Nodup) :
    validateShapes decls params ins = validateShapes decls params ins' := by
  have : validateOne params ins = validateOne params ins' := by
    funext e; unfold validateOne; rw [Proofs.lookup_perm e.1 h hnd]
  unfold validateShapes
  rw [this]

-- non-vacuity: two required inputs; the SECOND declared one has a rank too many / a wrong fixed extent
private def nv2 : List InputDecl := [⟨"a", some [DimDecl.ofValue 2, DimDecl.ofValue 0]⟩, ⟨"b", some [DimDecl.ofValue 4]⟩]
example : validateShapes nv2 [] [("a", [2, 5]), ("b", [4, 1])] = .error .model :=
  wrong_rank_rejected nv2 [] _ ("b", [DimDecl.ofValue 4]) (by decide) (by decide) [4, 1] (by decide) (by decide)
example : validateShapes nv2 [] [("a", [2, 5]), ("b", [3])] = .error .model :=
  wrong_fixed_dim_rejected nv2 [] _ ("b", [DimDecl.ofValue 4]) (by decide) (by decide) [3] (by decide) 0 (by decide) (by decide) (by decide) (by decide)
example : validateShapes nv2 [] [("a", [2, 5]), ("b", [3])] = validateShapes nv2.reverse [] [("a", [2, 5]), ("b", [3])] :=
  validate_order_independent nv2 nv2.reverse [] _ (List.reverse_perm nv2).symm

end Gonnx.C13
