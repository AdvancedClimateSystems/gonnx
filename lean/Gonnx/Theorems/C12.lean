import Gonnx.Graph.Decode
import Gonnx.Spec.Decode
import Gonnx.Proofs.Decode
/-
C12 — weights decode to their declared shape, type and exact values, or are refused.
Model: Gonnx/Graph/Decode.lean (onnx/graph_proto.go, after the two `fix:` commits).
-/
namespace Gonnx.C12
open Gonnx Gonnx.Spec Gonnx.Proofs.Decode

-- `bytesLE`, `encodeLE`, `supported`, `NoTyped` of this namespace are defined in Gonnx/Proofs/Decode.lean:
-- the helper lemmas there refer to them as well.

/-- **Round trip of the raw readers**, every width: reading the little-endian encoding of any list of
in-range bit patterns returns exactly that list. -/
theorem readLE_encodeLE (w : Nat) (hw : 0 < w) (xs : List Nat) (h : ∀ x ∈ xs, x < 2 ^ (8 * w)) :
    readLE w (encodeLE w xs) = xs :=
  readChunks_encodeLE w hw xs h _ [] (Nat.lt_succ_of_le (encodeLE_length w xs ▸ Nat.le_mul_of_pos_right xs.length hw))

-- non-vacuity: three 16-bit patterns
example : readLE 2 (encodeLE 2 [513, 65535, 7]) = [513, 65535, 7] :=
  readLE_encodeLE 2 (by decide) [513, 65535, 7] (by decide)

/-- a payload that is not a whole number of elements decodes to nothing (and is then refused by the
count check unless the declared shape is empty) -/
theorem readLE_partial (w : Nat) (hw : 0 < w) (data : List Nat) (h : data.length % w ≠ 0) :
    readLE w data = [] :=
  List.eq_nil_of_length_eq_zero (by rw [readLE_length_eq w hw, if_neg h])

-- non-vacuity: six bytes read as 4-byte elements
example : readLE 4 [1, 2, 3, 4, 5, 6] = [] := readLE_partial 4 (by decide) [1, 2, 3, 4, 5, 6] (by decide)

theorem readLE_length (w : Nat) (hw : 0 < w) (data : List Nat) (h : data.length % w = 0) :
    (readLE w data).length = data.length / w := by
  rw [readLE_length_eq w hw, if_pos h]

-- non-vacuity: eight bytes read as 4-byte elements
example : (readLE 4 [1, 2, 3, 4, 5, 6, 7, 8]).length = [1, 2, 3, 4, 5, 6, 7, 8].length / 4 :=
  readLE_length 4 (by decide) [1, 2, 3, 4, 5, 6, 7, 8] (by decide)

/-- the decoder never panics -/
theorem decode_no_panic (tp : TensorProtoM) : decode tp ≠ .error .panic := by
  rw [decode_eq]
  split
  · simp
  · split <;> simp

/-- **Soundness**: whatever is loaded has exactly the declared dims, as many elements as the dims say,
and — for the 11 supported codes — the declared element type and the declared values. -/
theorem decode_sound (tp : TensorProtoM) (d : Decoded) (h : decode tp = .ok d) :
    (∀ x ∈ tp.dims, 0 ≤ x) ∧ d.shape = tp.dims.map Int.toNat ∧ d.bits.length = prod d.shape ∧
    (∀ dt, dtypeOfCode tp.dataType = some dt → d.dt = dt ∧ d.bits = valuesFor tp dt) := by
  rw [decode_eq] at h
  split at h
  · cases h
  · next dt0 hdt =>
    split at h
    · next hok =>
      cases h
      exact ⟨hok.1, rfl, hok.2, fun dt hc => by rw [hc, Option.some_or] at hdt; cases hdt; exact ⟨rfl, rfl⟩⟩
    · cases h

-- non-vacuity: a 2×3 FLOAT tensor given in `float_data` (1.0, +0, a NaN, −Inf, a denormal, −0 as bit patterns)
private def nv_tp : TensorProtoM := { dataType := 1, dims := [2, 3], floatData := [1065353216, 0, 2143289344, 4286578688, 1, 2147483648] }
example : (∀ x ∈ nv_tp.dims, 0 ≤ x) ∧ (⟨.f32, [2, 3], nv_tp.floatData⟩ : Decoded).shape = nv_tp.dims.map Int.toNat ∧
    (⟨.f32, [2, 3], nv_tp.floatData⟩ : Decoded).bits.length = prod (⟨.f32, [2, 3], nv_tp.floatData⟩ : Decoded).shape ∧
    (∀ dt, dtypeOfCode nv_tp.dataType = some dt → (⟨.f32, [2, 3], nv_tp.floatData⟩ : Decoded).dt = dt ∧
      (⟨.f32, [2, 3], nv_tp.floatData⟩ : Decoded).bits = valuesFor nv_tp dt) :=
  decode_sound nv_tp ⟨.f32, [2, 3], nv_tp.floatData⟩ (by decide)

/-- a payload whose element count does not match the declared shape is an error -/
theorem decode_count_mismatch (tp : TensorProtoM) (dt : DType) (hc : dtypeOfCode tp.dataType = some dt)
    (h : (valuesFor tp dt).length ≠ prod (tp.dims.map Int.toNat)) : ∃ e, decode tp = .error e ∧ e ≠ .panic := by
  rw [decode_of_code tp dt hc, if_neg fun hc' => h hc'.2]
  exact ⟨_, rfl, by decide⟩

-- non-vacuity: six values for a declared 2×2 shape
example : ∃ e, decode { nv_tp with dims := [2, 2] } = .error e ∧ e ≠ .panic :=
  decode_count_mismatch { nv_tp with dims := [2, 2] } .f32 rfl (by decide)

theorem decode_negative_dim (tp : TensorProtoM) (x : Int) (hx : x ∈ tp.dims) (hneg : x < 0) :
    ∃ e, decode tp = .error e ∧ e ≠ .panic := by
  rw [decode_eq]
  split
  · exact ⟨_, rfl, by decide⟩
  · exact ⟨_, if_neg fun hc => absurd (hc.1 x hx) (Int.not_le.2 hneg), by decide⟩

-- non-vacuity: dims [-2, -3]
example : ∃ e, decode { nv_tp with dims := [-2, -3] } = .error e ∧ e ≠ .panic :=
  decode_negative_dim { nv_tp with dims := [-2, -3] } (-3) (by decide) (by decide)

/-- **Raw encoding, exact**: for every supported non-bool element type, any non-negative dims and any
element bit patterns of the right width, the little-endian raw payload decodes to exactly them. -/
theorem decode_raw_exact (tp : TensorProtoM) (code : Int) (dt : DType) (hs : (code, dt) ∈ supported)
    (hb : dt ≠ .bool) (hc : tp.dataType = code) (hn : NoTyped tp) (hd : ∀ x ∈ tp.dims, 0 ≤ x)
    (xs : List Nat) (hx : ∀ x ∈ xs, x < 2 ^ (8 * width dt))
    (hlen : xs.length = prod (tp.dims.map Int.toNat)) (hraw : tp.rawData = encodeLE (width dt) xs) :
    decode tp = .ok ⟨dt, tp.dims.map Int.toNat, xs⟩ := by
  have hw := width_pos_of_supported code dt hs
  have hv : valuesFor tp dt = xs := by
    rw [valuesFor_noTyped tp dt hw hn, if_neg hb, hraw, readLE_encodeLE (width dt) hw xs hx]
  rw [decode_of_code tp dt (hc ▸ code_of_supported code dt hs), if_pos ⟨hd, by rw [hv, hlen]⟩, hv]

-- non-vacuity: a 2×3 INT16 tensor given as 12 raw bytes
private def nv_raw : TensorProtoM := { dataType := 5, dims := [2, 3], rawData := encodeLE 2 [1, 65535, 32768, 513, 0, 7] }
example : decode nv_raw = .ok ⟨.i16, nv_raw.dims.map Int.toNat, [1, 65535, 32768, 513, 0, 7]⟩ :=
  decode_raw_exact nv_raw 5 .i16 (by simp [supported]) (by decide) rfl ⟨rfl, rfl, rfl, rfl, rfl⟩ (by decide)
    [1, 65535, 32768, 513, 0, 7] (by decide) (by decide) rfl

/-- the clause "**raw encoding, wrong length** (short by a byte or an element, long, empty): refused", as
first stated -/
def raw_length_mismatch_statement : Prop :=
  ∀ (tp : TensorProtoM) (code : Int) (dt : DType), (code, dt) ∈ supported → tp.dataType = code → NoTyped tp →
    tp.rawData.length ≠ prod (tp.dims.map Int.toNat) * width dt →
    ∃ e, decode tp = .error e ∧ e ≠ .panic

/-- … is FALSE for the code as it is: a trailing partial element makes the reader return nothing, and
"nothing" is exactly what an empty declared shape asks for. FLOAT, dims `[0]`, one raw byte loads. -/
theorem decode_raw_length_mismatch_counterexample : ¬ raw_length_mismatch_statement := by
  intro h
  obtain ⟨e, he, _⟩ := h { dataType := 1, dims := [0], rawData := [1] } 1 .f32 (by simp [supported]) rfl
    ⟨rfl, rfl, rfl, rfl, rfl⟩ (by decide)
  have : decode { dataType := 1, dims := [0], rawData := [1] } = .ok ⟨.f32, [0], []⟩ := by decide
  rw [this] at he
  cases he

/-- **Raw encoding, wrong length**: refused, provided the payload is a whole number of elements or the
declared shape is not empty (`hpartial` is the only addition to the statement above). -/
theorem decode_raw_length_mismatch_partial (tp : TensorProtoM) (code : Int) (dt : DType)
    (hs : (code, dt) ∈ supported) (hc : tp.dataType = code) (hn : NoTyped tp)
    (hlen : tp.rawData.length ≠ prod (tp.dims.map Int.toNat) * width dt)
    (hpartial : tp.rawData.length % width dt = 0 ∨ prod (tp.dims.map Int.toNat) ≠ 0) :
    ∃ e, decode tp = .error e ∧ e ≠ .panic :=
  decode_count_mismatch tp dt (hc ▸ code_of_supported code dt hs)
    (valuesFor_length_ne tp code dt hs hn _ hlen hpartial)

-- non-vacuity: 12 raw bytes for a declared 2×2 INT16 shape (whole elements, too many) …
example : ∃ e, decode { nv_raw with dims := [2, 2] } = .error e ∧ e ≠ .panic :=
  decode_raw_length_mismatch_partial { nv_raw with dims := [2, 2] } 5 .i16 (by simp [supported]) rfl ⟨rfl, rfl, rfl, rfl, rfl⟩ (by decide) (by decide)
-- … and 3 raw bytes (a trailing partial element) for the non-empty 2×3 shape
example : ∃ e, decode { nv_raw with rawData := [1, 2, 3] } = .error e ∧ e ≠ .panic :=
  decode_raw_length_mismatch_partial { nv_raw with rawData := [1, 2, 3] } 5 .i16 (by simp [supported]) rfl ⟨rfl, rfl, rfl, rfl, rfl⟩ (by decide) (by decide)

/-- an unsupported code with only raw data is refused with the invalid-type error -/
theorem decode_unsupported_raw_only (tp : TensorProtoM) (hc : dtypeOfCode tp.dataType = none) (hn : NoTyped tp) :
    decode tp = .error .invalidType := by
  rw [decode_eq, hc, Option.none_or, fallbackDType_of_noTyped tp hn]

-- non-vacuity: FLOAT16 (code 10) with raw data only
example : decode { nv_raw with dataType := 10 } = .error .invalidType :=
  decode_unsupported_raw_only { nv_raw with dataType := 10 } rfl ⟨rfl, rfl, rfl, rfl, rfl⟩

/-- the full-strength clause "an element type the library cannot represent is reported as an error" -/
def unsupported_refused_statement : Prop :=
  ∀ tp : TensorProtoM, dtypeOfCode tp.dataType = none → ∃ e, decode tp = .error e

/-- … is FALSE for the code as it is (known finding decode.unsupported_element_type.wrong):
FLOAT16 with a populated float_data field loads as float32. -/
theorem unsupported_refused_counterexample : ¬ unsupported_refused_statement := by
  intro h
  obtain ⟨e, he⟩ := h { dataType := 10, dims := [1], floatData := [0] } (by decide)
  have : decode { dataType := 10, dims := [1], floatData := [0] } = .ok ⟨.f32, [1], [0]⟩ := by decide
  rw [this] at he
  cases he

-- non-vacuity
example : readLE 2 (encodeLE 2 [513, 65535]) = [513, 65535] ∧ encodeLE 2 [513] = [1, 2] := by decide

end Gonnx.C12
