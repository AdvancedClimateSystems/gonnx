import Gonnx.Ops.Shape
import Gonnx.Spec.Shape
import Gonnx.Proofs.Shape
/-
C07 — Reshape, Flatten, Squeeze, Unsqueeze, Shape keep element order and give the ONNX shape.
Model: Gonnx/Ops/Shape.lean (mirrors ops/opset13/{reshape,flatten,squeeze,unsqueeze,shape}.go).
Spec:  Gonnx/Spec/Shape.lean.
All four reshaping operators return `{ t with shape := … }`: the flat row-major data list is the
input's, so "exactly the input's elements in the same order" is the `data` component of each theorem.
Proofs: Gonnx/Proofs/Shape.lean; the definitions `Pos`, `vec`, `withShape` of this namespace are at
its head.
-/
namespace Gonnx.C07
open Gonnx
variable {α : Type}

-- concrete tensors shared by the non-vacuity examples below
private def nv_t : Tensor Nat := ⟨[2, 3, 4], List.range 24⟩
private def nv_u : Tensor Nat := ⟨[1, 3, 1, 2], [5, 6, 7, 8, 9, 10]⟩

/-- **Reshape**: for every input shape (extents ≥ 1) and every non-empty request, the operator returns
the input's data under exactly the ONNX shape (0 copies, a single -1 inferred), and fails (error or
panic, never a tensor) exactly when ONNX declares the request invalid. -/
theorem reshape_eq_spec (t : Tensor α) (req : List Int) (hpos : Pos t.shape) (hne : req ≠ []) :
    (reshapeOp t (vec req)).toOption = (Spec.reshapeShape t.shape req).map (withShape t) :=
  Proofs.Shape.reshape_eq_spec t req hpos hne

-- non-vacuity: 2×3×4 reshaped by `[0, -1]` (both sides are `some` of the 2×12 tensor)
example : (reshapeOp nv_t (vec [0, -1])).toOption = (Spec.reshapeShape nv_t.shape [0, -1]).map (withShape nv_t) :=
  reshape_eq_spec nv_t [0, -1] (by decide) (by decide)
example : (reshapeOp nv_t (vec [0, -1])).toOption = some ⟨[2, 12], List.range 24⟩ := by decide

/-- requests whose entries are all ≥ -1 never panic: invalid ones get an error -/
theorem reshape_no_panic (t : Tensor α) (req : List Int) (hpos : Pos t.shape) (hne : req ≠ [])
    (hge : ∀ d ∈ req, -1 ≤ d) : reshapeOp t (vec req) ≠ .error .panic := by
  rw [Proofs.Shape.reshapeOp_eq t req hpos hne hge]
  exact Proofs.Shape.outcome_ne_error t (by decide) _

-- non-vacuity: an invalid request (24 is not a multiple of 5) with entries ≥ -1
example : reshapeOp nv_t (vec [5, -1]) ≠ .error .panic :=
  reshape_no_panic nv_t [5, -1] (by decide) (by decide) (by decide)

/-- **Flatten**: every axis in [-rank, rank] gives (∏ shape[:axis], ∏ shape[axis:]) with the same data;
every other axis does not give a tensor. -/
theorem flatten_eq_spec (t : Tensor α) (axis : Int) :
    (flattenOp t axis).toOption = (Spec.flattenShape t.shape axis).map (withShape t) :=
  Proofs.Shape.flatten_eq_spec t axis

/-- the full-strength clause "an out-of-range axis yields an error" … -/
def flatten_refuses_statement : Prop :=
  ∀ (t : Tensor Nat) (axis : Int), Spec.flattenShape t.shape axis = none → ∃ e, flattenOp t axis = .error e ∧ e ≠ .panic

/-- … is false for the code as it is: it panics (known finding flatten.axis_out_of_range) -/
theorem flatten_refuses_counterexample : ¬ flatten_refuses_statement := by
  intro h
  obtain ⟨e, he, hne⟩ := h ⟨[2], [1, 2]⟩ 5 (by decide)
  have hp : flattenOp (⟨[2], [1, 2]⟩ : Tensor Nat) 5 = .error .panic := by decide
  rw [hp] at he
  cases he
  exact hne rfl

/-- **Squeeze without axes** removes exactly the extent-1 dimensions -/
theorem squeeze_all (t : Tensor α) :
    squeezeOp t none = .ok (withShape t (t.shape.filter (· ≠ 1))) :=
  Proofs.Shape.squeeze_all t

/-- The original `squeeze_partial` (axes in range and pairwise distinct after normalisation ⇒ the
operator agrees with ONNX, including the error for an axis whose extent is not 1), verbatim,
specialised to `Tensor Nat`. It carried no hypothesis on the extents … -/
def squeeze_partial_statement : Prop :=
  ∀ (t : Tensor Nat) (axes : List Int), axes ≠ [] →
    (Spec.normAxes t.shape.length axes).isSome →
    (squeezeOp t (some (vec axes))).toOption = (Spec.squeezeShape t.shape (some axes)).map (withShape t)

/-- … and is false: with a zero extent elsewhere the element count stays 0, so gorgonia's count check
passes and an axis of extent ≠ 1 is removed instead of refused
(shape [2, 0], axes [0]: the operator returns shape [0], ONNX declares the request invalid). -/
theorem squeeze_partial_counterexample : ¬ squeeze_partial_statement := by
  intro h
  have := h ⟨[2, 0], []⟩ [0] (by decide) (by decide)
  revert this
  decide

/-- **Squeeze with axes** (partial): when all extents are ≥ 1 (`hpos`, the extra hypothesis) and the
axes are in range and pairwise distinct after normalisation, the operator agrees with ONNX — including
the error for an axis whose extent is not 1 -/
theorem squeeze_partial_partial (t : Tensor α) (axes : List Int) (hne : axes ≠ []) (hpos : Pos t.shape)
    (hvalid : (Spec.normAxes t.shape.length axes).isSome) :
    (squeezeOp t (some (vec axes))).toOption = (Spec.squeezeShape t.shape (some axes)).map (withShape t) := by
  rw [Proofs.Shape.squeezeOp_eq t axes hne hpos hvalid, Proofs.Shape.toOption_outcome]

-- non-vacuity: 1×3×1×2 squeezed at the (negative, unsorted) axes -2 and 0
example : (squeezeOp nv_u (some (vec [-2, 0]))).toOption = (Spec.squeezeShape nv_u.shape (some [-2, 0])).map (withShape nv_u) :=
  squeeze_partial_partial nv_u [-2, 0] (by decide) (by decide) (by decide)
example : (squeezeOp nv_u (some (vec [-2, 0]))).toOption = some ⟨[3, 2], [5, 6, 7, 8, 9, 10]⟩ := by decide

def squeeze_statement : Prop :=
  ∀ (t : Tensor Nat) (axes : List Int), axes ≠ [] →
    (squeezeOp t (some (vec axes))).toOption = (Spec.squeezeShape t.shape (some axes)).map (withShape t)

/-- the unguarded statement is false: out-of-range and duplicate axes are ignored instead of refused
(known findings squeeze.axis_out_of_range, squeeze.duplicate_axes) -/
theorem squeeze_counterexample_out_of_range :
    squeezeOp (⟨[1, 3, 1], [7, 8, 9]⟩ : Tensor Nat) (some (vec [5])) = .ok ⟨[1, 3, 1], [7, 8, 9]⟩ ∧
    Spec.squeezeShape [1, 3, 1] (some [5]) = none := by decide

theorem squeeze_counterexample_duplicate :
    squeezeOp (⟨[1, 2], [7, 8]⟩ : Tensor Nat) (some (vec [0, -2])) = .ok ⟨[2], [7, 8]⟩ ∧
    Spec.squeezeShape [1, 2] (some [0, -2]) = none := by decide

theorem squeeze_counterexample : ¬ squeeze_statement := by
  intro h
  have := h ⟨[1, 3, 1], [7, 8, 9]⟩ [5] (by decide)
  revert this
  decide

/-- **Unsqueeze**: any non-empty list of axes valid for the output rank (negative, unsorted) inserts
ones exactly there and keeps the original extents in order; duplicates / out-of-range axes give an
error. -/
theorem unsqueeze_eq_spec (t : Tensor α) (axes : List Int) (hne : axes ≠ []) :
    (unsqueezeOp t (vec axes)).toOption = (Spec.unsqueezeShape t.shape axes).map (withShape t) :=
  Proofs.Shape.unsqueeze_eq_spec t axes hne

-- non-vacuity: 2×3×4 unsqueezed at -1 and 0
example : (unsqueezeOp nv_t (vec [-1, 0])).toOption = (Spec.unsqueezeShape nv_t.shape [-1, 0]).map (withShape nv_t) :=
  unsqueeze_eq_spec nv_t [-1, 0] (by decide)
example : (unsqueezeOp nv_t (vec [-1, 0])).toOption = some ⟨[1, 2, 3, 4, 1], List.range 24⟩ := by decide

theorem unsqueeze_no_panic (t : Tensor α) (axes : List Int) (hne : axes ≠ []) :
    unsqueezeOp t (vec axes) ≠ .error .panic := by
  rw [Proofs.Shape.unsqueezeOp_eq t axes hne rfl]
  exact Proofs.Shape.outcome_ne_error t (by split <;> decide) _

-- non-vacuity: duplicate axes
example : unsqueezeOp nv_t (vec [1, 1]) ≠ .error .panic :=
  unsqueeze_no_panic nv_t [1, 1] (by decide)

/-- **Shape** returns the dimensions as a 1-D int64 tensor -/
theorem shape_op (t : Tensor α) :
    shapeOp t = .ok ⟨[t.shape.length], t.shape.map (fun (d : Nat) => (d : Int))⟩ := rfl

/-- element order: every tensor any of the four operators returns carries the input's data list -/
theorem data_preserved (t t' : Tensor α) :
    (∀ s, reshapeOp t s = .ok t' → t'.data = t.data) ∧ (∀ a, flattenOp t a = .ok t' → t'.data = t.data) ∧
    (∀ a, squeezeOp t a = .ok t' → t'.data = t.data) ∧ (∀ a, unsqueezeOp t a = .ok t' → t'.data = t.data) :=
  ⟨fun _ h => Proofs.Shape.reshapeOp_data h, fun _ h => Proofs.Shape.flattenOp_data h,
   fun _ h => Proofs.Shape.squeezeOp_data h, fun _ h => Proofs.Shape.unsqueezeOp_data h⟩

-- non-vacuity of the four inner implications: each operator does return a tensor on some request
example : (⟨[6, 4], List.range 24⟩ : Tensor Nat).data = nv_t.data ∧ (⟨[2, 12], List.range 24⟩ : Tensor Nat).data = nv_t.data ∧
    (⟨[3, 2], [5, 6, 7, 8, 9, 10]⟩ : Tensor Nat).data = nv_u.data ∧ (⟨[2, 1, 3, 4], List.range 24⟩ : Tensor Nat).data = nv_t.data :=
  ⟨(data_preserved nv_t ⟨[6, 4], List.range 24⟩).1 (vec [6, -1]) (by decide),
   (data_preserved nv_t ⟨[2, 12], List.range 24⟩).2.1 1 (by decide),
   (data_preserved nv_u ⟨[3, 2], [5, 6, 7, 8, 9, 10]⟩).2.2.1 none (by decide),
   (data_preserved nv_t ⟨[2, 1, 3, 4], List.range 24⟩).2.2.2 (vec [1]) (by decide)⟩

-- non-vacuity
example : Spec.reshapeShape [2, 3, 4] [0, -1] = some [2, 12] ∧ Spec.unsqueezeShape [3, 4] [-1, 0] = some [1, 3, 4, 1] ∧
    Spec.squeezeShape [1, 3, 1] (some [-1]) = some [1, 3] ∧ Spec.flattenShape [2, 3, 4] (-1) = some [6, 4] := by decide

end Gonnx.C07
