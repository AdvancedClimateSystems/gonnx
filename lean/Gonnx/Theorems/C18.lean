import Gonnx.Graph.NewModel
import Gonnx.Generated.Registry
import Gonnx.Theorems.C12
/-
C18 — loading never crashes; unsupported opsets/operators are refused with an error.
The model starts after `proto.Unmarshal` (trusted: returns a message or an error). The
unknown-operator clause at Run is `C01.run_node_error` + `C15.lookup_unknown`.
-/
namespace Gonnx.C18
open Gonnx

theorem decodeParams_no_panic (l : List TensorProtoM) : decodeParams l ≠ .error .panic := by
  rw [Proofs.Decode.decodeParams_eq_mapM]
  intro h
  obtain ⟨tp, _, htp⟩ := Proofs.mapM_error_mem decode l .panic h
  exact C12.decode_no_panic tp htp

/-- **Loading is total**: for every ModelProto — absent graph, no imports, any initializers with any
dims / data types / payloads — `NewModel` returns a model or an error, never a panic. -/
theorem newModel_total (supported : List Int) (mp : ModelProtoM) : newModel supported mp ≠ .error .panic := by
  rw [Proofs.Decode.newModel_eq]
  cases h : decodeParams (if mp.hasGraph then mp.initializers else []) with
  | error e =>
    intro hc
    cases hc
    exact decodeParams_no_panic _ h
  | ok ps =>
    rw [Proofs.ok_bind]
    split <;> simp

/-- **Opset rule**: when the initializers decode, the model loads iff its highest imported opset
version is one the library implements, and otherwise the error is the unsupported-opset error. -/
theorem opset_rule (supported : List Int) (mp : ModelProtoM) (ps : List Decoded)
    (hd : decodeParams (if mp.hasGraph then mp.initializers else []) = .ok ps) :
    (opsetOf mp.opsetVersions ∈ supported → newModel supported mp = .ok (ps, opsetOf mp.opsetVersions)) ∧
    (opsetOf mp.opsetVersions ∉ supported → newModel supported mp = .error .unsupportedOpset) := by
  rw [Proofs.Decode.newModel_eq, hd, Proofs.ok_bind]
  constructor
  · intro h
    rw [if_pos (List.contains_iff_mem.2 h)]
  · intro h
    rw [if_neg fun hc => h (List.contains_iff_mem.1 hc)]

-- non-vacuity: a model with two initializers (a 2×3 FLOAT in `float_data`, an INT64 vector in `int64_data`)
-- that decode, importing the opsets 11, 13 and 9; both inner implications are used
private def nv_mp : ModelProtoM :=
  { initializers := [{ dataType := 1, dims := [2, 3], floatData := [1065353216, 0, 2143289344, 4286578688, 1, 2147483648] },
                     { dataType := 7, dims := [2], int64Data := [-1, 5] }],
    opsetVersions := [11, 13, 9] }
private def nv_ps : List Decoded :=
  [⟨.f32, [2, 3], [1065353216, 0, 2143289344, 4286578688, 1, 2147483648]⟩, ⟨.i64, [2], [18446744073709551615, 5]⟩]
example : (opsetOf nv_mp.opsetVersions ∈ [13] → newModel [13] nv_mp = .ok (nv_ps, opsetOf nv_mp.opsetVersions)) ∧
    (opsetOf nv_mp.opsetVersions ∉ [13] → newModel [13] nv_mp = .error .unsupportedOpset) :=
  opset_rule [13] nv_mp nv_ps (by decide)
example : newModel [13] nv_mp = .ok (nv_ps, 13) := (opset_rule [13] nv_mp nv_ps (by decide)).1 (by decide)
example : newModel [12, 14] nv_mp = .error .unsupportedOpset := (opset_rule [12, 14] nv_mp nv_ps (by decide)).2 (by decide)

/-- the loop of `opsetOf` is the maximum of the imported versions and its starting value 0 -/
theorem opsetOf_eq_max? (vs : List Int) : some (opsetOf vs) = (0 :: vs).max? := by
  have : (fun acc v : Int => if v > acc then v else acc) = max := by
    funext acc v; rw [Int.max_def]; split <;> split <;> omega
  rw [opsetOf, this, List.max?_cons']

/-- every imported version is ≤ the version the model is judged by, which is itself an imported
version or 0 -/
theorem opsetOf_is_max (vs : List Int) : (∀ v ∈ vs, v ≤ opsetOf vs) ∧ 0 ≤ opsetOf vs :=
  have h := (List.max?_eq_some_iff.1 (opsetOf_eq_max? vs).symm).2
  ⟨fun v hv => h v (List.mem_cons_of_mem _ hv), h 0 List.mem_cons_self⟩

/-- **Obligation over the regenerated table**: exactly opset 13 resolves in the running code -/
theorem only_13_supported : Generated.supportedOpsets = [13] := by decide

/-- hence a model whose highest imported opset is not 13 is refused at load (when its weights decode) -/
theorem not_13_refused (mp : ModelProtoM) (ps : List Decoded)
    (hd : decodeParams (if mp.hasGraph then mp.initializers else []) = .ok ps)
    (h : opsetOf mp.opsetVersions ≠ 13) :
    newModel Generated.supportedOpsets mp = .error .unsupportedOpset := by
  apply (opset_rule Generated.supportedOpsets mp ps hd).2
  rw [only_13_supported]
  simpa using h

-- non-vacuity: the same initializers, highest imported opset 14
example : newModel Generated.supportedOpsets { nv_mp with opsetVersions := [11, 14] } = .error .unsupportedOpset :=
  not_13_refused { nv_mp with opsetVersions := [11, 14] } nv_ps (by decide) (by decide)

-- non-vacuity
example : newModel [13] { opsetVersions := [11, 13, 9] } = .ok ([], 13) ∧
    newModel [13] { opsetVersions := [14, 13] } = .error .unsupportedOpset ∧
    newModel [13] { opsetVersions := [] } = .error .unsupportedOpset ∧
    newModel [13] { hasGraph := false, opsetVersions := [13] } = .ok ([], 13) := by decide

end Gonnx.C18
