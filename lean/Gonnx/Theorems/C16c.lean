import Gonnx.Graph.Batch
import Gonnx.Proofs.Batch2
/-
C16, third part — an elementwise operator whose TWO operands carry the batch (a sample and its context,
an image and its mask): each sample of the result is the operator applied to that sample of either operand,
whatever extents of 1 are stretched INSIDE the sample ((N,1,C) against (N,T,C), (N,1,H,W) against (N,C,H,W)).
Proof: Gonnx/Proofs/Batch2.lean.
-/
namespace Gonnx.C16
open Gonnx Gonnx.Proofs
variable {α β : Type} [Inhabited α] [Inhabited β]

theorem binary_both_batched_pointwise (f : α → α → β) :
    ∀ X Z Y, Good X → Good Z → X.shape.length = Z.shape.length → 0 < X.shape.length →
      dim X.shape 0 = dim Z.shape 0 → applyBinary f .multi X Z = .ok Y →
      Good Y ∧ 0 < Y.shape.length ∧ dim Y.shape 0 = dim X.shape 0 ∧
      ∀ n, n < dim X.shape 0 →
        applyBinary f .multi (takeBatch 0 n X) (takeBatch 0 n Z) = .ok (takeBatch 0 n Y) :=
  Proofs.Batch3.binary_both_batched_pointwise f

-- non-vacuity: x (2,2,2) plus a per-sample context z (2,1,2); sample 1 alone
private def nv3_X : Tensor Int := ⟨[2, 2, 2], [1, 2, 3, 4, 5, 6, 7, 8]⟩
private def nv3_Z : Tensor Int := ⟨[2, 1, 2], [10, 20, 30, 40]⟩
private def nv3_Y : Tensor Int := ⟨[2, 2, 2], [11, 22, 13, 24, 35, 46, 37, 48]⟩
example : applyBinary (fun a b : Int => a + b) .multi (takeBatch 0 1 nv3_X) (takeBatch 0 1 nv3_Z) = .ok (takeBatch 0 1 nv3_Y) :=
  (binary_both_batched_pointwise (fun a b : Int => a + b) nv3_X nv3_Z nv3_Y (And.intro rfl (by decide)) (And.intro rfl (by decide))
    rfl (by decide) (by decide) (by decide)).2.2.2 1 (by decide)

end Gonnx.C16
