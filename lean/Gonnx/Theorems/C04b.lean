import Gonnx.Proofs.MatMul
import Mathlib.Algebra.BigOperators.Group.Finset.Basic
import Mathlib.Algebra.Order.BigOperators.Ring.Finset
import Mathlib.Data.Real.Basic
import Mathlib.Tactic.Ring
import Mathlib.Tactic.Linarith
/-
C04, the clause "values within the rounding error bound of the dot-product length". Every entry of
MatMul / Gemm / LinearRegressor is `Gonnx.sumRange A k (fun l => A.mul (a l) (b l))` - one fixed-order
dot product (`Ops/MatMul.lean`). Here `A` is instantiated with ROUNDED real arithmetic: any rounding
function `rnd` with relative error at most `u` (IEEE round-to-nearest without overflow / underflow:
u = 2^-24 for float32, 2^-53 for float64). The theorem is the classical forward error bound: the computed
dot product differs from the exact one by at most ((1+u)^(n+1) - 1) * Σ |x_k * y_k|  (≈ (n+1) u Σ|x_k y_k|).
It is what the tolerance of the float streams of C04 / C05 / C06 / C16 stands on. Not proved: that Go's
float operations satisfy `Rounding` (IEEE-754, trusted), the summation order inside gonum's blocked
kernels (any order obeys the same bound; the model's order is the one proved).
-/
namespace Gonnx.C04b
open Gonnx Finset

/-- a rounding function with relative error at most `u` -/
structure Rounding (rnd : ℝ → ℝ) (u : ℝ) : Prop where
  u_nonneg : 0 ≤ u
  err : ∀ x, |rnd x - x| ≤ u * |x|

/-- real arithmetic with every result rounded -/
noncomputable def roundedArith (rnd : ℝ → ℝ) : Arith ℝ :=
  { zero := 0, add := fun a b => rnd (a + b), mul := fun a b => rnd (a * b), sub := fun a b => rnd (a - b) }


/-- rounding `z` where `w` was meant: the error of `z` grows by the factor `1 + u`, plus `u |w|` -/
private theorem Rounding.err_of {rnd : ℝ → ℝ} {u : ℝ} (h : Rounding rnd u) (z w : ℝ) :
    |rnd z - w| ≤ (1 + u) * |z - w| + u * |w| := by
  have hz : |z| ≤ |z - w| + |w| := by simpa using abs_add_le (z - w) w
  have := abs_sub_le (rnd z) z w
  have := h.err z
  have := mul_le_mul_of_nonneg_left hz h.u_nonneg
  linarith

private theorem pow_mul_one_sub_le (u : ℝ) (hu : 0 ≤ u) (m : Nat) :
    (1 + u) ^ m * (1 - (m : ℝ) * u) ≤ 1 := by
  induction m with
  | zero => simp
  | succ m ih =>
    have key : (1 + u) * (1 - ((m : ℝ) + 1) * u) ≤ 1 - (m : ℝ) * u := by
      have : (1 + u) * (1 - ((m : ℝ) + 1) * u) = 1 - m * u - (m + 1) * (u * u) := by ring
      rw [this]
      exact sub_le_self _ (mul_nonneg (add_nonneg (Nat.cast_nonneg m) zero_le_one) (mul_self_nonneg u))
    calc (1 + u) ^ (m + 1) * (1 - ((m + 1 : ℕ) : ℝ) * u)
        = (1 + u) ^ m * ((1 + u) * (1 - ((m : ℝ) + 1) * u)) := by push_cast; ring
      _ ≤ (1 + u) ^ m * (1 - (m : ℝ) * u) := mul_le_mul_of_nonneg_left key (pow_nonneg (add_nonneg zero_le_one hu) m)
      _ ≤ 1 := ih

private theorem pow_sub_one_le_linear (u : ℝ) (hu : 0 ≤ u) (m : Nat) (hm : (m : ℝ) * u ≤ 1 / 2) :
    (1 + u) ^ m - 1 ≤ 2 * (m : ℝ) * u := by
  have ht : 0 ≤ (m : ℝ) * u := mul_nonneg (Nat.cast_nonneg m) hu
  have h := pow_mul_one_sub_le u hu m
  rw [mul_assoc]
  generalize (m : ℝ) * u = t at *
  -- cancel `1 - t > 0` from `(1 + u) ^ m * (1 - t) ≤ 1 ≤ (1 + 2 t) (1 - t)`
  have h1 : (1 + 2 * t) * (1 - t) = 1 + t * (1 - 2 * t) := by ring
  have h2 : 1 ≤ (1 + 2 * t) * (1 - t) := by
    rw [h1]; exact le_add_of_nonneg_right (mul_nonneg ht (by linarith))
  exact sub_le_iff_le_add'.2 (le_of_mul_le_mul_right (h.trans h2) (by linarith))

/-- rounded summation of terms `p k` that each approximate `q k` with relative error `u` -/
theorem sum_error (rnd : ℝ → ℝ) (u : ℝ) (h : Rounding rnd u) (n : Nat) (p q : Nat → ℝ)
    (hp : ∀ k, |p k - q k| ≤ u * |q k|) :
    |sumRange (roundedArith rnd) n p - ∑ k ∈ range n, q k| ≤ ((1 + u) ^ (n + 1) - 1) * ∑ k ∈ range n, |q k| := by
  have hu := h.u_nonneg
  induction n with
  | zero => simp [Proofs.MatMul.sumRange_zero, roundedArith]
  | succ n ih =>
    rw [Proofs.MatMul.sumRange_succ, Finset.sum_range_succ, Finset.sum_range_succ, pow_succ (1 + u) (n + 1)]
    have hP : 1 + u ≤ (1 + u) ^ (n + 1) := le_self_pow₀ (by linarith) n.succ_ne_zero
    have hS : |∑ k ∈ range n, q k| ≤ ∑ k ∈ range n, |q k| := Finset.abs_sum_le_sum_abs _ _
    have hn := hp n
    show |rnd (_ + p n) - _| ≤ _
    generalize sumRange (roundedArith rnd) n p = s at ih ⊢
    generalize ∑ k ∈ range n, q k = S at ih hS ⊢
    generalize ∑ k ∈ range n, |q k| = T at ih hS ⊢
    generalize p n = pn at hn ⊢
    generalize q n = qn at hn ⊢
    generalize (1 + u) ^ (n + 1) = P at ih hP ⊢
    -- the sum so far is off by at most `(P - 1) T`, the new term by at most `u |qn|`
    have hin : |s + pn - (S + qn)| ≤ (P - 1) * T + u * |qn| := by
      rw [add_sub_add_comm]; exact (abs_add_le _ _).trans (add_le_add ih hn)
    have hout : |S + qn| ≤ T + |qn| := (abs_add_le _ _).trans (add_le_add hS le_rfl)
    have hu1 : 0 ≤ 1 + u := by linarith
    calc |rnd (s + pn) - (S + qn)|
        ≤ (1 + u) * |s + pn - (S + qn)| + u * |S + qn| := h.err_of _ _
      _ ≤ (1 + u) * ((P - 1) * T + u * |qn|) + u * (T + |qn|) :=
          add_le_add (mul_le_mul_of_nonneg_left hin hu1) (mul_le_mul_of_nonneg_left hout hu)
      _ = (P * (1 + u) - 1) * T + ((1 + u) * (1 + u) - 1) * |qn| := by ring
      _ ≤ (P * (1 + u) - 1) * T + (P * (1 + u) - 1) * |qn| :=
          add_le_add le_rfl (mul_le_mul_of_nonneg_right
            (sub_le_sub_right (mul_le_mul_of_nonneg_right hP hu1) 1) (abs_nonneg qn))
      _ = (P * (1 + u) - 1) * (T + |qn|) := (mul_add _ _ _).symm

/-- **forward error of the fixed-order dot product** -/
theorem dot_error (rnd : ℝ → ℝ) (u : ℝ) (h : Rounding rnd u) (n : Nat) (x y : Nat → ℝ) :
    |sumRange (roundedArith rnd) n (fun k => (roundedArith rnd).mul (x k) (y k)) - ∑ k ∈ range n, x k * y k|
      ≤ ((1 + u) ^ (n + 1) - 1) * ∑ k ∈ range n, |x k * y k| :=
  sum_error rnd u h n _ _ fun k => h.err (x k * y k)

/-- exact arithmetic (`rnd = id`, `u = 0`) computes the exact dot product -/
theorem dot_exact (n : Nat) (x y : Nat → ℝ) :
    sumRange (roundedArith id) n (fun k => (roundedArith id).mul (x k) (y k)) = ∑ k ∈ range n, x k * y k := by
  induction n with
  | zero => simp [Proofs.MatMul.sumRange_zero, roundedArith]
  | succ n ih =>
    rw [Proofs.MatMul.sumRange_succ, Finset.sum_range_succ, ih]
    simp [roundedArith]

/-- first-order reading of the bound: for (n+1)·u ≤ 1/2 it is at most 2 (n+1) u Σ|x_k y_k| -/
theorem dot_error_linear (rnd : ℝ → ℝ) (u : ℝ) (h : Rounding rnd u) (n : Nat) (x y : Nat → ℝ)
    (hu : ((n : ℝ) + 1) * u ≤ 1 / 2) :
    |sumRange (roundedArith rnd) n (fun k => (roundedArith rnd).mul (x k) (y k)) - ∑ k ∈ range n, x k * y k|
      ≤ 2 * ((n : ℝ) + 1) * u * ∑ k ∈ range n, |x k * y k| := by
  have hT : 0 ≤ ∑ k ∈ range n, |x k * y k| := Finset.sum_nonneg (fun _ _ => abs_nonneg _)
  have hlin := pow_sub_one_le_linear u h.u_nonneg (n + 1) (by push_cast; exact hu)
  push_cast at hlin
  exact (dot_error rnd u h n x y).trans (mul_le_mul_of_nonneg_right hlin hT)

-- non-vacuity: the identity is a rounding with u = 0, and then the bound says the result is exact
example : Rounding id 0 := ⟨le_refl 0, fun x => by simp⟩
example (x y : Nat → ℝ) :
    |sumRange (roundedArith id) 3 (fun k => (roundedArith id).mul (x k) (y k)) - ∑ k ∈ range 3, x k * y k| ≤ 0 := by
  have := dot_error id 0 ⟨le_refl 0, fun x => by simp⟩ 3 x y
  simpa using this

end Gonnx.C04b
