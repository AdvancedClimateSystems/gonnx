import Gonnx.Ops.IntWrap
/-
C03 / C04 / C11 - fixed-width integer arithmetic. Go evaluates `a + b`, `a - b`, `a * b` and sums of
products on int8 … uint64 by keeping the low bits after EVERY operation; the models of the operators
compute on exact integers and reduce once (`wrapTo`). These theorems show, for every width and both
signednesses, that the two agree (`wrapBits` is a ring homomorphism onto the residues), that the result
lies in the element type's range and is the only value in that range congruent to the exact result.
-/
namespace Gonnx.C03b
open Gonnx

private theorem pow_pos' (bits : Nat) : (0 : Int) < (2 : Int) ^ bits := Int.pow_pos (by decide)

theorem wrapBits_emod (bits : Nat) (s : Bool) (v : Int) :
    wrapBits bits s v % (2 : Int) ^ bits = v % (2 : Int) ^ bits := by
  unfold wrapBits
  simp only
  split
  · rw [Int.sub_emod_right, Int.emod_emod_of_dvd _ (Int.dvd_refl _)]
  · exact Int.emod_emod_of_dvd _ (Int.dvd_refl _)

theorem wrapBits_of_emod_eq (bits : Nat) (s : Bool) (a b : Int)
    (h : a % (2 : Int) ^ bits = b % (2 : Int) ^ bits) : wrapBits bits s a = wrapBits bits s b := by
  unfold wrapBits; simp only [h]

theorem wrapBits_idem (bits : Nat) (s : Bool) (v : Int) :
    wrapBits bits s (wrapBits bits s v) = wrapBits bits s v :=
  wrapBits_of_emod_eq _ _ _ _ (wrapBits_emod _ _ _)

/-- an operation that respects congruence may be carried out on reduced operands -/
theorem wrapBits_op (op : Int → Int → Int) (hop : ∀ a b m : Int, op a b % m = op (a % m) (b % m) % m)
    (bits : Nat) (s : Bool) (a b : Int) :
    wrapBits bits s (op (wrapBits bits s a) (wrapBits bits s b)) = wrapBits bits s (op a b) := by
  apply wrapBits_of_emod_eq
  rw [hop, wrapBits_emod, wrapBits_emod, ← hop]

theorem wrapBits_add (bits : Nat) (s : Bool) (a b : Int) :
    wrapBits bits s (wrapBits bits s a + wrapBits bits s b) = wrapBits bits s (a + b) :=
  wrapBits_op (· + ·) Int.add_emod bits s a b

theorem wrapBits_sub (bits : Nat) (s : Bool) (a b : Int) :
    wrapBits bits s (wrapBits bits s a - wrapBits bits s b) = wrapBits bits s (a - b) :=
  wrapBits_op (· - ·) Int.sub_emod bits s a b

theorem wrapBits_mul (bits : Nat) (s : Bool) (a b : Int) :
    wrapBits bits s (wrapBits bits s a * wrapBits bits s b) = wrapBits bits s (a * b) :=
  wrapBits_op (· * ·) Int.mul_emod bits s a b

theorem wrapBits_range_unsigned (bits : Nat) (v : Int) :
    0 ≤ wrapBits bits false v ∧ wrapBits bits false v < (2 : Int) ^ bits := by
  unfold wrapBits
  simp only [Bool.false_and, Bool.false_eq_true, if_false]
  exact ⟨Int.emod_nonneg _ (Int.ne_of_gt (pow_pos' bits)), Int.emod_lt_of_pos _ (pow_pos' bits)⟩

private theorem two_pow_pred {bits : Nat} (hb : 0 < bits) : (2 : Int) ^ bits = 2 * (2 : Int) ^ (bits - 1) := by
  obtain ⟨n, rfl⟩ : ∃ n, bits = n + 1 := ⟨bits - 1, by omega⟩
  rw [Int.pow_succ, Nat.add_sub_cancel, Int.mul_comm]

theorem wrapBits_range_signed (bits : Nat) (hb : 0 < bits) (v : Int) :
    -((2 : Int) ^ (bits - 1)) ≤ wrapBits bits true v ∧ wrapBits bits true v < (2 : Int) ^ (bits - 1) := by
  have h0 := Int.emod_nonneg v (Int.ne_of_gt (pow_pos' bits))
  have h1 := Int.emod_lt_of_pos v (pow_pos' bits)
  unfold wrapBits
  simp only [Bool.true_and, decide_eq_true_eq]
  rw [two_pow_pred hb] at *
  split <;> omega

/-- two members of a window of length `m` that are congruent modulo `m` are equal -/
theorem eq_of_emod_eq {m lo a b : Int} (ha : lo ≤ a ∧ a < lo + m) (hb : lo ≤ b ∧ b < lo + m)
    (h : a % m = b % m) : a = b := by
  have h1 : (a - lo) % m = (b - lo) % m := by rw [Int.sub_emod, h, ← Int.sub_emod]
  rw [Int.emod_eq_of_lt (by omega) (by omega), Int.emod_eq_of_lt (by omega) (by omega)] at h1
  omega

/-- the reduced value is the only one of its kind: any `w` in the range of the `bits`-wide Go integer type
(`int8 … int64` for `s = true`, `uint8 … uint64` otherwise) that is congruent to the exact result `v`
modulo `2 ^ bits` is `wrapBits bits s v` -/
theorem wrapBits_unique (bits : Nat) (hb : 0 < bits) (s : Bool) (v w : Int)
    (hr : if s then -((2 : Int) ^ (bits - 1)) ≤ w ∧ w < (2 : Int) ^ (bits - 1) else 0 ≤ w ∧ w < (2 : Int) ^ bits)
    (hc : w % (2 : Int) ^ bits = v % (2 : Int) ^ bits) : wrapBits bits s v = w := by
  have he : wrapBits bits s v % (2 : Int) ^ bits = w % (2 : Int) ^ bits := by rw [wrapBits_emod, hc]
  cases s
  · have := wrapBits_range_unsigned bits v
    exact eq_of_emod_eq (lo := 0) (by omega) (by simpa using hr) he
  · have := wrapBits_range_signed bits hb v
    have hm := two_pow_pred hb
    simp only [if_true] at hr
    exact eq_of_emod_eq (lo := -(2 : Int) ^ (bits - 1)) (by omega) (by omega) he

/-- Go evaluates a sum of products step by step, wrapping after every operation; the exact sum wrapped
once is the same value -/
theorem wrapBits_dot (bits : Nat) (s : Bool) (xs : List (Int × Int)) (acc : Int) :
    xs.foldl (fun a p => wrapBits bits s (a + wrapBits bits s (p.1 * p.2))) (wrapBits bits s acc)
      = wrapBits bits s (xs.foldl (fun a p => a + p.1 * p.2) acc) := by
  induction xs generalizing acc with
  | nil => rfl
  | cons p ps ih =>
    rw [List.foldl_cons, wrapBits_add, List.foldl_cons]
    exact ih _


-- non-vacuity / sanity: int8 127 + 1, uint8 200 * 2, int32 overflow in a dot product
example : wrapBits 8 true (127 + 1) = -128 := by decide
example : wrapBits 8 false (200 * 2) = 144 := by decide
example : wrapBits 8 true (wrapBits 8 true 100 + wrapBits 8 true 100) = wrapBits 8 true 200 := wrapBits_add 8 true 100 100
example : [(100, 100), (50, 3)].foldl (fun a (p : Int × Int) => wrapBits 8 true (a + wrapBits 8 true (p.1 * p.2))) (wrapBits 8 true 0)
    = wrapBits 8 true (100 * 100 + 50 * 3) := by
  have := wrapBits_dot 8 true [(100, 100), (50, 3)] 0
  simpa using this
example : wrapBits 16 true 40000 = -25536 := wrapBits_unique 16 (by decide) true 40000 (-25536) (by decide) (by decide)

/-- the per-type reduction used by the driver: in range values are kept -/
theorem wrapTo_float (v : Int) : wrapTo .f32 v = v ∧ wrapTo .f64 v = v ∧ wrapTo .bool v = v := ⟨rfl, rfl, rfl⟩

end Gonnx.C03b
