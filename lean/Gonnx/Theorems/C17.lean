import Gonnx.Graph.Concurrent
import Gonnx.Proofs.Concurrent
/-
C17 — a loaded Model can be run from many goroutines at once.
Model: Gonnx/Graph/Concurrent.lean. PARTIAL: the Go memory model, gorgonia internals (sync.Pool
borrows, lazily initialised engine state) and protobuf lazy fields are not modelled; the premise
(`Disciplined`: a Run writes only objects it allocated itself) is C02's `HeaderPure` + `frame`,
validated operator by operator by the correspondence, and the race-detector runs search the real code.
-/
namespace Gonnx.C17
open Gonnx.Conc
variable {V : Type}

-- concrete instance shared by the non-vacuity examples below: three threads over the shared objects 0 and 1
-- (weights) and one private object each (10 + k); every thread reads shared objects, writes its private
-- object (thread 2 twice) and reads it back. `nv_disc` proves the discipline for these programs.
private def nv_sum : Regs Nat → Nat := fun r => r.foldl (· + ·) 0
private def nv_p0 : List (Instr Nat) := [.load 0, .load 1, .store 10 nv_sum, .load 10]
private def nv_p1 : List (Instr Nat) := [.load 1, .store 11 (fun r => 2 * nv_sum r), .load 11, .load 0]
private def nv_p2 : List (Instr Nat) := [.load 0, .store 12 (fun r => nv_sum r + 1), .store 12 (fun r => nv_sum r + 2), .load 12]
private def nv_progs : List (List (Instr Nat)) := [nv_p0, nv_p1, nv_p2]
private def nv_priv : Nat → Obj → Bool := fun (k o : Nat) => decide (o = 10 + k)
private def nv_σ : St Nat := fun o => 100 + o

-- a statement about every thread `k` with program `p` is checked on the three pairs `(p, k)` of the table
private theorem nv_disc : Disciplined nv_progs nv_priv where
  writes_private k p h :=
    (by decide : ∀ x ∈ nv_progs.zipIdx, ∀ o ∈ writes x.1, nv_priv x.2 o = true) (p, k) (List.mem_zipIdx_iff_getElem?.2 h)
  disjoint k l (o : Nat) hkl h :=
    have h' : o = 10 + k := of_decide_eq_true h
    decide_eq_false (by omega)
  reads_ok k p h (o : Nat) ho l hl :=
    -- every object read is shared (below 10) or the reader's own (10 + k): private to no other thread
    have hs : o < 10 ∨ o = 10 + k :=
      (by decide : ∀ x ∈ nv_progs.zipIdx, ∀ o ∈ reads x.1, o < 10 ∨ o = 10 + x.2) (p, k) (List.mem_zipIdx_iff_getElem?.2 h) o ho
    decide_eq_false (show ¬ o = 10 + l by omega)

/-- **No data race in any interleaving**: under the discipline no two instructions of different
threads conflict — whatever the schedule. -/
theorem no_conflict (progs : List (List (Instr V))) (priv : Nat → Obj → Bool) (hd : Disciplined progs priv)
    (k l : Nat) (p q : List (Instr V)) (hk : progs[k]? = some p) (hl : progs[l]? = some q)
    (i j : Instr V) (hi : i ∈ p) (hj : j ∈ q) : ¬ Conflict k i l j :=
  Proofs.Concurrent.no_conflict progs priv hd k l p q hk hl i j hi hj

-- non-vacuity: thread 0's write of its private object against thread 1's read of the shared object 0
example : ¬ Conflict 0 (.store 10 nv_sum : Instr Nat) 1 (.load 0) :=
  no_conflict nv_progs nv_priv nv_disc 0 1 nv_p0 nv_p1 rfl rfl _ _ (by simp [nv_p0]) (by simp [nv_p1])

-- the proof does not use `hlen`: thread `k` has its registers by `hr`, and a thread without registers never steps
set_option linter.unusedVariables false in
/-- **Each thread gets what it gets alone**: for every schedule (any interleaving of 2, 3, …, n
threads, complete or not), the registers of thread `k` and the objects it may read are, after the
part of its program that has run, exactly what running that part alone from the initial store gives. -/
theorem interleave_result (progs : List (List (Instr V))) (priv : Nat → Obj → Bool) (hd : Disciplined progs priv)
    (sched : Schedule) (rs0 : List (Regs V)) (σ0 : St V) (hlen : rs0.length = progs.length)
    (k : Nat) (p : List (Instr V)) (hk : progs[k]? = some p) (r0 : Regs V) (hr : rs0[k]? = some r0) :
    let fin := runSched sched progs rs0 σ0
    ∃ done rest, p = done ++ rest ∧ fin.1[k]? = some rest ∧
      fin.2.1[k]? = some (solo done r0 σ0).1 ∧
      ∀ o, (∀ l, l ≠ k → priv l o = false) → fin.2.2 o = (solo done r0 σ0).2 o :=
  Proofs.Concurrent.interleave_result progs priv hd sched rs0 σ0 k p hk r0 hr

-- non-vacuity: an incomplete interleaving of the three threads, seen from thread 1
example :
    let fin := runSched [0, 1, 2, 1, 0, 2, 0, 1] nv_progs [[], [], []] nv_σ
    ∃ done rest, nv_p1 = done ++ rest ∧ fin.1[1]? = some rest ∧
      fin.2.1[1]? = some (solo done [] nv_σ).1 ∧
      ∀ o, (∀ l, l ≠ 1 → nv_priv l o = false) → fin.2.2 o = (solo done [] nv_σ).2 o :=
  interleave_result nv_progs nv_priv nv_disc [0, 1, 2, 1, 0, 2, 0, 1] [[], [], []] nv_σ rfl 1 nv_p1 rfl [] rfl

-- the proof does not use `hlen`: thread `k` has its registers by `hr`, and a thread without registers never steps
set_option linter.unusedVariables false in
/-- in particular, when the schedule completes every thread, thread `k`'s final registers (its
results) are those of running it alone -/
theorem complete_result (progs : List (List (Instr V))) (priv : Nat → Obj → Bool) (hd : Disciplined progs priv)
    (sched : Schedule) (rs0 : List (Regs V)) (σ0 : St V) (hlen : rs0.length = progs.length)
    (hc : Complete sched progs rs0 σ0)
    (k : Nat) (p : List (Instr V)) (hk : progs[k]? = some p) (r0 : Regs V) (hr : rs0[k]? = some r0) :
    (runSched sched progs rs0 σ0).2.1[k]? = some (solo p r0 σ0).1 :=
  Proofs.Concurrent.complete_result progs priv hd sched rs0 σ0 hc k p hk r0 hr

-- non-vacuity: a complete interleaving (`Complete` holds by computation); thread 1 gets what it gets alone
example : (runSched [0, 1, 2, 1, 0, 2, 0, 1, 2, 2, 1, 0] nv_progs [[], [], []] nv_σ).2.1[1]? = some (solo nv_p1 [] nv_σ).1 :=
  complete_result nv_progs nv_priv nv_disc [0, 1, 2, 1, 0, 2, 0, 1, 2, 2, 1, 0] [[], [], []] nv_σ rfl rfl 1 nv_p1 rfl [] rfl
example : (solo nv_p1 [] nv_σ).1 = [101, 202, 100] := by decide

/-- shared objects (private to nobody) are never changed by anybody: loading further models or
running concurrently does not disturb what other threads read -/
theorem shared_unchanged (progs : List (List (Instr V))) (priv : Nat → Obj → Bool) (hd : Disciplined progs priv)
    (sched : Schedule) (rs0 : List (Regs V)) (σ0 : St V) (o : Obj) (ho : ∀ k, priv k o = false) :
    (runSched sched progs rs0 σ0).2.2 o = σ0 o :=
  Proofs.Concurrent.shared_unchanged progs priv hd sched rs0 σ0 o ho

-- non-vacuity: the shared object 1 is private to nobody
example : (runSched [0, 1, 2, 1, 0, 2, 0, 1] nv_progs [[], [], []] nv_σ).2.2 1 = nv_σ 1 :=
  shared_unchanged nv_progs nv_priv nv_disc [0, 1, 2, 1, 0, 2, 0, 1] [[], [], []] nv_σ 1
    (fun k => decide_eq_false (by omega))

/-- without the discipline (an operator that writes a shared weight: Conv's bias, the recurrent
initial state, ArgMax's input shape before the fix: commits) the result of a thread depends on the
schedule -/
theorem undisciplined_counterexample :
    let w : Instr Nat := .store 0 (fun _ => 7)          -- thread 0 writes the shared object 0
    let r : Instr Nat := .load 0                         -- thread 1 reads it
    let σ0 : St Nat := fun _ => 5
    (runSched [0, 1] [[w], [r]] [[], []] σ0).2.1 = [[], [7]] ∧
    (runSched [1, 0] [[w], [r]] [[], []] σ0).2.1 = [[], [5]] := by
  decide

end Gonnx.C17
