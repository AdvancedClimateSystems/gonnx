import Gonnx.Ops.Recurrent
import Gonnx.Spec.Recurrent
import Gonnx.Proofs.Binary
import Gonnx.Proofs.Recurrent
/-
C06 — RNN, GRU, LSTM implement the ONNX recurrences, consistently under splitting.
Model: Gonnx/Ops/Recurrent.lean (ops/opset13/{rnn,gru,lstm}.go after the fix: commits, through the
gorgonia slice / Gemm models). Spec: Gonnx/Spec/Recurrent.lean (index-level ONNX equations).
Arithmetic and activation functions are parameters; the only law used is `x · 1 = x` (Gemm's
alpha = beta = 1). PARTIAL: accuracy of exp/tanh and float reassociation are outside the model.
-/
namespace Gonnx.C06
open Gonnx
variable {α : Type} [Inhabited α]

abbrev Pos := Proofs.Pos
abbrev Equiv {β : Type} [Inhabited β] := @Proofs.Equiv β _

set_option linter.unusedSectionVars false in
/-- **Splitting at the level of the time loop**: running the steps over `xs ++ ys` is running them
over `xs` and then, from the state reached, over `ys`; the per-step outputs concatenate. -/
theorem runSteps_append {σ : Type} (step : σ → Tensor α → Res (σ × Tensor α)) (s : σ) (xs ys : List (Tensor α)) :
    runSteps step s (xs ++ ys) =
      match runSteps step s xs with
      | .error e => .error e
      | .ok (s1, h1) =>
        match runSteps step s1 ys with
        | .error e => .error e
        | .ok (s2, h2) => .ok (s2, h1 ++ h2) :=
  Proofs.Recurrent.runSteps_append step s xs ys

set_option linter.unusedSectionVars false in
/-- the same for the specification's iteration -/
theorem iterate_append {σ : Type} (step : Nat → σ → σ) (hid : σ → Tensor α) (n m t : Nat) (s : σ) :
    Spec.iterate step hid (n + m) t s =
      let r1 := Spec.iterate step hid n t s
      let r2 := Spec.iterate step hid m (t + n) r1.2
      (r1.1 ++ r2.1, r2.2) :=
  Proofs.Recurrent.iterate_append step hid n m t s

-- concrete instance shared by the non-vacuity examples below: seq = 2, batch = 2, input = 3, hidden = 2 over
-- `Int`, a bounded "squashing" activation `g`, a second activation `f`, packed weights filled with a pattern
private def nv_A : Arith Int := ⟨0, (· + ·), (· * ·), (· - ·)⟩
private def nv_f : Int → Int := fun v => v % 3
private def nv_g : Int → Int := fun v => if v > 4 then 4 else if v < -4 then -4 else v
private def nv_act : String → Option (Int → Int) := fun n => if n = "f" then some nv_f else if n = "g" then some nv_g else none
private def nv_seqT (shape : List Nat) (k : Int) : Tensor Int := ⟨shape, (List.range (prod shape)).map fun (n : Nat) => ((n : Int) * k) % 5 - 2⟩
private def nv_d : Spec.RecDims := ⟨2, 2, 3, 2⟩
private def nv_X : Tensor Int := ⟨[2, 2, 3], [1, -1, 2, 0, 1, 1, 2, 1, -2, 1, 0, 1]⟩
private def nv_H0 : Tensor Int := ⟨[1, 2, 2], [1, 0, -1, 2]⟩
private def nv_C0 : Tensor Int := ⟨[1, 2, 2], [0, 1, 1, -1]⟩

/-- an activation name outside the table is refused with the activation error (never ignored) -/
theorem rnn_unknown_activation (A : Arith α) (one : α) (getAct : String → Option (α → α)) (name : String)
    (hn : getAct name = none) (hidden : Nat) (X W R : Tensor α) (B H0 : Option (Tensor α))
    (y : Tensor α × Tensor α) :
    rnnOp A one getAct { hiddenSize := hidden, activations := [name] } X W R B none H0 ≠ .ok y := by
  intro h
  unfold rnnOp at h
  simp only [Option.isSome_none, Bool.false_eq_true, if_false, List.getElem?_cons_zero, hn] at h
  -- the weight, bias and state blocks are prepared, then the activation is looked up
  obtain ⟨_, _, h⟩ := Proofs.bind_eq_ok.1 h
  obtain ⟨_, _, h⟩ := Proofs.bind_eq_ok.1 h
  obtain ⟨_, _, h⟩ := Proofs.bind_eq_ok.1 h
  obtain ⟨_, _, h⟩ := Proofs.bind_eq_ok.1 h
  cases h

-- non-vacuity: the activation table does not know "h"
example (y : Tensor Int × Tensor Int) :
    rnnOp nv_A 1 nv_act { hiddenSize := 2, activations := ["h"] } nv_X (nv_seqT [1, 2, 3] 3) (nv_seqT [1, 2, 2] 2) none none (some nv_H0) ≠ .ok y :=
  rnn_unknown_activation nv_A 1 nv_act "h" (by decide) 2 nv_X (nv_seqT [1, 2, 3] 3) (nv_seqT [1, 2, 2] 2) none (some nv_H0) y

/-- sequence_lens is refused -/
theorem seq_lens_refused (A : Arith α) (one : α) (getAct : String → Option (α → α)) (at0 : RecAttrs)
    (X W R sl : Tensor α) (B H0 C0 P : Option (Tensor α)) :
    rnnOp A one getAct at0 X W R B (some sl) H0 = .error .inputUnsupported ∧
    gruOp A one getAct at0 X W R B (some sl) H0 = .error .inputUnsupported ∧
    lstmOp A one getAct at0 X W R B (some sl) H0 C0 P = .error .inputUnsupported :=
  ⟨rfl, rfl, rfl⟩

-- the proof does not use `hn`, `hW`: `i < n` gives `1 ≤ n`, and the block is read through `Tensor.get` only
set_option linter.unusedVariables false in
/-- `ExtractMatrices`: for `hidden ≥ 2` block `i` of a packed rank-3 weight tensor `(1, n·hidden, c)`
with `c ≥ 1` is the `(hidden, c)` matrix `M[0, i·hidden + j, k]` -/
theorem extractMatrices_get (M : Tensor α) (n hidden c : Nat) (hh : 2 ≤ hidden) (hc : 1 ≤ c) (hn : 1 ≤ n)
    (hs : M.shape = [1, n * hidden, c]) (hW : M.WF) (ms : List (Tensor α))
    (h : extractMatrices M n 3 hidden = .ok ms) (i : Nat) (hi : i < n) :
    ∃ m, ms[i]? = some m ∧ m.shape = [hidden, c] ∧ m.WF ∧
      ∀ j k, j < hidden → k < c → m.get [j, k] = M.get [0, i * hidden + j, k] :=
  Proofs.Recurrent.extractMatrices_get M n hidden c hh hc hs ms h i hi

-- non-vacuity: a packed (1, 3·2, 3) weight tensor (the GRU's W), block 1
example : ∃ m, [(⟨[2, 3], [-2, 1, -1, 2, 0, -2]⟩ : Tensor Int), ⟨[2, 3], [1, -1, 2, 0, -2, 1]⟩, ⟨[2, 3], [-1, 2, 0, -2, 1, -1]⟩][1]? = some m ∧
      m.shape = [2, 3] ∧ m.WF ∧ ∀ j k, j < 2 → k < 3 → m.get [j, k] = (nv_seqT [1, 6, 3] 3).get [0, 1 * 2 + j, k] :=
  extractMatrices_get (nv_seqT [1, 6, 3] 3) 3 2 3 (by decide) (by decide) (by decide) rfl rfl _ (by decide +kernel) 1 (by decide)

-- the proof does not use `hWX`, `hWW`, `hWR`, `hWB`: these inputs are read through `Tensor.get` only, which does not
-- ask for a dense buffer
set_option linter.unusedVariables false in
/-- **RNN = ONNX recurrence** (partial): forward direction, any seq ≥ 1 and batch ≥ 1, with or
without bias and initial state — under the guards the code forces, `hidden_size ≥ 2` and
`input_size ≥ 2` (gorgonia drops extent-1 slice axes: known findings rec.hidden_size_1 /
rec.input_size_1). -/
theorem rnn_partial (A : Arith α) (one : α) (hone : ∀ v, A.mul v one = v)
    (getAct : String → Option (α → α)) (name : String) (f : α → α) (hact : getAct name = some f)
    (d : Spec.RecDims) (X W R : Tensor α) (B H0 : Option (Tensor α))
    (hh : 2 ≤ d.hidden) (hi : 2 ≤ d.input) (hb : 1 ≤ d.batch) (hsq : 1 ≤ d.seq)
    (hWX : X.WF) (hWW : W.WF) (hWR : R.WF) (hWB : ∀ b, B = some b → b.WF) (hWH : ∀ h, H0 = some h → h.WF)
    (s : Tensor α × Tensor α) (hs : Spec.rnn A f d X W R B H0 = some s) :
    ∃ y yh, rnnOp A one getAct { hiddenSize := d.hidden, activations := [name] } X W R B none H0 = .ok (y, yh) ∧
      Equiv y s.1 ∧ Equiv yh s.2 :=
  Proofs.Recurrent.rnn_partial A one hone getAct name f hact d X W R B H0 hh hi hb hsq hWH s hs

-- non-vacuity: seq 2, batch 2, input 3, hidden 2, with bias and initial state; `nv_rnnS` is the ONNX value
private def nv_rnnS : Tensor Int × Tensor Int := (⟨[2, 1, 2, 2], [-4, 0, 0, -4, 4, 0, -4, 4]⟩, ⟨[1, 2, 2], [4, 0, -4, 4]⟩)
example : ∃ y yh, rnnOp nv_A 1 nv_act { hiddenSize := nv_d.hidden, activations := ["g"] } nv_X (nv_seqT [1, 2, 3] 3) (nv_seqT [1, 2, 2] 2) (some (nv_seqT [1, 4] 1)) none (some nv_H0) = .ok (y, yh) ∧
      Equiv y nv_rnnS.1 ∧ Equiv yh nv_rnnS.2 :=
  rnn_partial nv_A 1 Int.mul_one nv_act "g" nv_g rfl nv_d nv_X (nv_seqT [1, 2, 3] 3) (nv_seqT [1, 2, 2] 2) (some (nv_seqT [1, 4] 1)) (some nv_H0)
    (by decide) (by decide) (by decide) (by decide) rfl rfl rfl (by intro b h; cases h; rfl) (by intro b h; cases h; rfl)
    nv_rnnS (by decide +kernel)

set_option linter.unusedVariables false in
/-- **GRU = ONNX recurrence** (partial, same guards), both values of linear_before_reset -/
theorem gru_partial (A : Arith α) (one : α) (hone : ∀ v, A.mul v one = v)
    (getAct : String → Option (α → α)) (n1 n2 : String) (f g : α → α) (h1 : getAct n1 = some f) (h2 : getAct n2 = some g)
    (lbr : Bool) (d : Spec.RecDims) (X W R : Tensor α) (B H0 : Option (Tensor α))
    (hh : 2 ≤ d.hidden) (hi : 2 ≤ d.input) (hb : 1 ≤ d.batch) (hsq : 1 ≤ d.seq)
    (hWX : X.WF) (hWW : W.WF) (hWR : R.WF) (hWB : ∀ b, B = some b → b.WF) (hWH : ∀ h, H0 = some h → h.WF)
    (s : Tensor α × Tensor α) (hs : Spec.gru A one f g lbr d X W R B H0 = some s) :
    ∃ y yh, gruOp A one getAct { hiddenSize := d.hidden, activations := [n1, n2], linearBeforeReset := lbr } X W R B none H0 = .ok (y, yh) ∧
      Equiv y s.1 ∧ Equiv yh s.2 :=
  Proofs.Recurrent.gru_partial A one hone getAct n1 n2 f g h1 h2 lbr d X W R B H0 hh hi hb hsq hWH s hs

-- non-vacuity: the same dimensions, both values of linear_before_reset; `nv_gruS lbr` is the ONNX value
private def nv_gruS (lbr : Bool) : Tensor Int × Tensor Int :=
  if lbr then (⟨[2, 1, 2, 2], [6, 4, -6, 6, 16, -4, 4, 8]⟩, ⟨[1, 2, 2], [16, -4, 4, 8]⟩)
  else (⟨[2, 1, 2, 2], [6, 4, -4, 7, 16, -4, -11, 12]⟩, ⟨[1, 2, 2], [16, -4, -11, 12]⟩)
example (lbr : Bool) : ∃ y yh, gruOp nv_A 1 nv_act { hiddenSize := nv_d.hidden, activations := ["f", "g"], linearBeforeReset := lbr } nv_X
        (nv_seqT [1, 6, 3] 3) (nv_seqT [1, 6, 2] 2) (some (nv_seqT [1, 12] 1)) none (some nv_H0) = .ok (y, yh) ∧
      Equiv y (nv_gruS lbr).1 ∧ Equiv yh (nv_gruS lbr).2 :=
  gru_partial nv_A 1 Int.mul_one nv_act "f" "g" nv_f nv_g rfl rfl lbr nv_d nv_X (nv_seqT [1, 6, 3] 3) (nv_seqT [1, 6, 2] 2) (some (nv_seqT [1, 12] 1)) (some nv_H0)
    (by decide) (by decide) (by decide) (by decide) rfl rfl rfl (by intro b h; cases h; rfl) (by intro b h; cases h; rfl)
    (nv_gruS lbr) (by cases lbr <;> decide +kernel)

set_option linter.unusedVariables false in
/-- **LSTM = ONNX recurrence** (partial, same guards), every subset of bias / initial hidden state /
initial cell state / peepholes -/
theorem lstm_partial (A : Arith α) (one : α) (hone : ∀ v, A.mul v one = v)
    (getAct : String → Option (α → α)) (n1 n2 n3 : String) (f g h : α → α)
    (h1 : getAct n1 = some f) (h2 : getAct n2 = some g) (h3 : getAct n3 = some h)
    (d : Spec.RecDims) (X W R : Tensor α) (B H0 C0 P : Option (Tensor α))
    (hh : 2 ≤ d.hidden) (hi : 2 ≤ d.input) (hb : 1 ≤ d.batch) (hsq : 1 ≤ d.seq)
    (hWX : X.WF) (hWW : W.WF) (hWR : R.WF) (hWB : ∀ b, B = some b → b.WF) (hWH : ∀ t, H0 = some t → t.WF)
    (hWC : ∀ t, C0 = some t → t.WF) (hWP : ∀ t, P = some t → t.WF)
    (s : Tensor α × Tensor α × Tensor α) (hs : Spec.lstm A f g h d X W R B H0 C0 P = some s) :
    ∃ y yh yc, lstmOp A one getAct { hiddenSize := d.hidden, activations := [n1, n2, n3] } X W R B none H0 C0 P = .ok (y, yh, yc) ∧
      Equiv y s.1 ∧ Equiv yh s.2.1 ∧ Equiv yc s.2.2 :=
  Proofs.Recurrent.lstm_partial A one hone getAct n1 n2 n3 f g h h1 h2 h3 d X W R B H0 C0 P hh hi hb hsq
    hWH hWC s hs

-- non-vacuity: the same dimensions with bias, initial hidden and cell state and peepholes; `nv_lstmS` is the ONNX value
private def nv_lstmS : Tensor Int × Tensor Int × Tensor Int :=
  (⟨[2, 1, 2, 2], [0, 2, -4, 0, 8, 0, -8, -4]⟩, ⟨[1, 2, 2], [8, 0, -8, -4]⟩, ⟨[1, 2, 2], [8, -8, -16, -19]⟩)
example : ∃ y yh yc, lstmOp nv_A 1 nv_act { hiddenSize := nv_d.hidden, activations := ["f", "g", "g"] } nv_X
        (nv_seqT [1, 8, 3] 3) (nv_seqT [1, 8, 2] 2) (some (nv_seqT [1, 16] 1)) none (some nv_H0) (some nv_C0) (some (nv_seqT [1, 6] 4)) = .ok (y, yh, yc) ∧
      Equiv y nv_lstmS.1 ∧ Equiv yh nv_lstmS.2.1 ∧ Equiv yc nv_lstmS.2.2 :=
  lstm_partial nv_A 1 Int.mul_one nv_act "f" "g" "g" nv_f nv_g nv_g rfl rfl rfl nv_d nv_X
    (nv_seqT [1, 8, 3] 3) (nv_seqT [1, 8, 2] 2) (some (nv_seqT [1, 16] 1)) (some nv_H0) (some nv_C0) (some (nv_seqT [1, 6] 4))
    (by decide) (by decide) (by decide) (by decide) rfl rfl rfl (by intro b h; cases h; rfl) (by intro b h; cases h; rfl)
    (by intro b h; cases h; rfl) (by intro b h; cases h; rfl) nv_lstmS (by decide +kernel)

/-- hidden_size = 1 is refused although ONNX defines the result (known finding) -/
theorem rnn_counterexample_hidden_1 :
    let A : Arith Int := ⟨0, (· + ·), (· * ·), (· - ·)⟩
    let act : String → Option (Int → Int) := fun _ => some fun v => if v > 0 then v else 0
    (∃ e, rnnOp A 1 act { hiddenSize := 1, activations := ["relu"] } ⟨[1, 1, 2], [1, 2]⟩ ⟨[1, 1, 2], [1, 1]⟩ ⟨[1, 1, 1], [1]⟩ none none none = .error e) ∧
    (Spec.rnn A (fun v => if v > 0 then v else 0) ⟨1, 1, 2, 1⟩ ⟨[1, 1, 2], [1, 2]⟩ ⟨[1, 1, 2], [1, 1]⟩ ⟨[1, 1, 1], [1]⟩ none none).isSome = true := by
  intro A act
  exact ⟨⟨.gorgonia, by decide +kernel⟩, by decide +kernel⟩

end Gonnx.C06
