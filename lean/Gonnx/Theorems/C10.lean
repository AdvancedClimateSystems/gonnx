import Gonnx.Ops.Unary
import Gonnx.Proofs.Binary
import Gonnx.Proofs.Unary
/-
C10 — unary math and activation operators apply the named function per element.
Model: Gonnx/Ops/Unary.lean. Every unary operator is `unaryOp f = Tensor.map f`; the scalar function
`f` is a parameter (Go's math / chewxy/math32 functions are not modelled: their accuracy is TESTED by
the correspondence stream, not proved). The special-value algebra of ReLU as it is coded
(`X * (X > 0)`) is proved over an abstract IEEE class domain.
-/
namespace Gonnx.C10
open Gonnx
variable {α β : Type}

abbrev Pos := Proofs.Pos
abbrev Equiv {β : Type} [Inhabited β] := @Proofs.Equiv β _

-- concrete tensors shared by the non-vacuity examples below
private def nv_x : Tensor Int := ⟨[2, 3], [1, -2, 3, -4, 5, -6]⟩
private def nv_s : Tensor Int := ⟨[3], [10, 20, 30]⟩

/-- shape (hence rank and element count) is preserved, and density -/
theorem unary_shape (f : α → β) (t : Tensor α) : (unaryOp f t).shape = t.shape ∧ ((t.WF) → (unaryOp f t).WF) :=
  ⟨rfl, Tensor.map_WF f⟩

-- non-vacuity of the inner implication: a dense 2×3 input
example : (unaryOp (fun v : Int => v * v) nv_x).WF := (unary_shape (fun v : Int => v * v) nv_x).2 rfl

/-- each element is mapped independently through `f`: the element at every in-range index of the
result is `f` of the input element at that index -/
theorem unary_get [Inhabited α] [Inhabited β] (f : α → β) (t : Tensor α) (hW : t.WF) (idx : List Nat)
    (h : InRange idx t.shape) : (unaryOp f t).get idx = f (t.get idx) :=
  Proofs.Unary.map_get f t hW idx h

-- non-vacuity: squaring a 2×3 tensor, read at [1, 2]
example : (unaryOp (fun v : Int => v * v) nv_x).get [1, 2] = (fun v : Int => v * v) (nv_x.get [1, 2]) :=
  unary_get _ nv_x rfl [1, 2] (by decide)

/-- ONNX PRelu: slope unidirectionally broadcast to x; `y = x < 0 ? slope·x : x` -/
def preluSpec [Inhabited α] (lt0 : α → Bool) (mul : α → α → α) (x slope : Tensor α) : Option (Tensor α) :=
  if Spec.Compatible x.shape slope.shape && Spec.bshape x.shape slope.shape == x.shape then
    some (ofFn x.shape fun idx => let v := x.get idx; if lt0 v then mul (slope.get (Spec.pin slope.shape idx)) v else v)
  else none

/-- **PRelu** equals the ONNX definition whenever the slope is unidirectionally broadcastable, and is
refused with the broadcast error otherwise -/
theorem prelu_eq_spec [Inhabited α] (lt0 : α → Bool) (mul : α → α → α) (x slope : Tensor α)
    (hx : x.WF) (hs : slope.WF) (hpx : Pos x.shape) (hps : Pos slope.shape)
    (s : Tensor α) (hsp : preluSpec lt0 mul x slope = some s) :
    ∃ m, preluOp lt0 mul x slope = .ok m ∧ Equiv m s := by
  rw [Proofs.Unary.preluOp_eq, Proofs.applyBinary_uni_dense _ _ _ hx hs]
  unfold preluSpec at hsp
  split at hsp
  · next hc =>
    cases hsp
    exact ⟨_, if_pos ((Proofs.uniCompat_iff _ _ hpx hps).2 (by simpa using hc)), Proofs.Equiv.refl (ofFn_WF _ _)⟩
  · cases hsp

-- non-vacuity: a 2×3 input, a slope row of 3 broadcast over the rows
example : ∃ m, preluOp (fun v : Int => decide (v < 0)) (· * ·) nv_x nv_s = .ok m ∧ Equiv m ⟨[2, 3], [1, -40, 3, -40, 5, -180]⟩ :=
  prelu_eq_spec _ _ nv_x nv_s rfl rfl (by decide) (by decide) _ (by decide)

theorem prelu_refuses [Inhabited α] (lt0 : α → Bool) (mul : α → α → α) (x slope : Tensor α)
    (hpx : Pos x.shape) (hps : Pos slope.shape) (hsp : preluSpec lt0 mul x slope = none) :
    preluOp lt0 mul x slope = .error .broadcast := by
  rw [Proofs.Unary.preluOp_eq]
  apply Proofs.applyBinary_uni_error
  rw [Proofs.uniCompat_iff _ _ hpx hps]
  unfold preluSpec at hsp
  split at hsp
  · cases hsp
  · next hc => simpa using hc

-- non-vacuity: a slope of 2 against rows of 3
example : preluOp (fun v : Int => decide (v < 0)) (· * ·) nv_x ⟨[2], [1, 2]⟩ = .error .broadcast :=
  prelu_refuses _ _ nv_x ⟨[2], [1, 2]⟩ (by decide) (by decide) (by decide)

/-! ### ReLU as coded, on IEEE-754 value classes -/

/-- IEEE-754 value classes -/
inductive FClass | nan | negInf | neg | negZero | posZero | pos | posInf
deriving DecidableEq, Repr

/-- class of `x > 0` converted to the element type (1 or 0) -/
def gtZeroClass : FClass → FClass
  | .pos | .posInf => .pos        -- 1
  | _ => .posZero                 -- 0  (NaN > 0 is false)

/-- class of a product with a factor that is exactly 1 (`.pos`) or exactly +0 (`.posZero`) -/
def mulByIndicator : FClass → FClass → FClass
  | x, .pos => x                               -- x * 1 = x
  | .nan, _ => .nan
  | .negInf, _ => .nan                         -- -Inf * 0 = NaN
  | .posInf, _ => .nan                         -- +Inf * 0 = NaN (not reached: indicator is 1 there)
  | .neg, _ => .negZero                        -- negative * +0 = -0
  | .negZero, _ => .negZero
  | .posZero, _ => .posZero
  | .pos, _ => .posZero

/-- `ops.ReLU`: `X * (X > 0)` -/
def reluImplClass (x : FClass) : FClass := mulByIndicator x (gtZeroClass x)

/-- `max(x, 0)` with NaN propagated, up to the sign of zero -/
def reluSpecClass : FClass → FClass
  | .nan => .nan
  | .pos => .pos
  | .posInf => .posInf
  | _ => .posZero

def sameUpToZeroSign (a b : FClass) : Prop :=
  a = b ∨ (a = .negZero ∧ b = .posZero) ∨ (a = .posZero ∧ b = .negZero)

/-- ReLU as coded is `max(x, 0)` (up to the sign of zero) on every class except −Inf -/
theorem relu_impl_eq_spec (x : FClass) (h : x ≠ .negInf) : sameUpToZeroSign (reluImplClass x) (reluSpecClass x) := by
  cases x <;> simp_all [sameUpToZeroSign, reluImplClass, reluSpecClass, mulByIndicator, gtZeroClass]

-- non-vacuity: the class of negative finite numbers
example : sameUpToZeroSign (reluImplClass .neg) (reluSpecClass .neg) := relu_impl_eq_spec .neg (by decide)

/-- … and on −Inf it is NaN instead of 0 (known finding relu.neg_inf) -/
theorem relu_impl_neg_inf : reluImplClass .negInf = .nan ∧ reluSpecClass .negInf = .posZero :=
  ⟨rfl, rfl⟩

end Gonnx.C10
