import Gonnx.Ops.Reduce
import Mathlib.Analysis.SpecialFunctions.Log.Basic
/-
C09 (Softmax / LogSoftmax over the reals). `Gonnx.softmaxLaneG` / `logSoftmaxLaneG` are gorgonia's lane
kernels, generic in the scalar operations; the driver runs them on IEEE doubles (`Drv.floatLane`).
Here they are instantiated with ℝ: for EVERY anchor the running maximum is started from (the lane's own
first element, or - gorgonia's last-axis kernel - the first element of the whole tensor) the kernel
computes the ONNX value exp(x_i) / Σ_j exp(x_j): over the reals the shift cancels. The float oracle of
the check (`softmax_props` in checklib/judge.py: every slice sums to 1, all values in [0, 1], order
preserved; LogSoftmax ≤ 0 and exp of it sums to 1) is what these theorems prove of the real value.
What is NOT proved: anything about rounding, overflow or underflow of the float kernel (the recorded
finding "first element far from the lane maximum" lives exactly there).
-/
namespace Gonnx.C09b
open Gonnx

/-- the scalar operations over ℝ -/
noncomputable def realLane : LaneArith ℝ :=
  { exp := Real.exp, log := Real.log, add := (· + ·), sub := (· - ·), mul := (· * ·), div := (· / ·),
    zero := 0, one := 1, gt := fun a b => decide (a > b) }

/-- ONNX Softmax of one lane -/
noncomputable def softmaxSpec (l : List ℝ) : List ℝ := l.map fun x => Real.exp x / (l.map Real.exp).sum

/-- ONNX LogSoftmax of one lane -/
noncomputable def logSoftmaxSpec (l : List ℝ) : List ℝ := l.map fun x => x - Real.log (l.map Real.exp).sum

private theorem sum_map_div (f : ℝ → ℝ) (c : ℝ) (l : List ℝ) :
    (l.map fun x => f x / c).sum = (l.map f).sum / c := by
  simp only [div_eq_mul_inv, List.sum_map_mul_right]

private theorem sum_exp_shift (m : ℝ) (l : List ℝ) :
    (l.map fun x => Real.exp (x - m)).sum = (l.map Real.exp).sum / Real.exp m := by
  simp only [Real.exp_sub, sum_map_div]

private theorem sum_exp_nonneg (l : List ℝ) : 0 ≤ (l.map Real.exp).sum :=
  List.sum_nonneg (List.forall_mem_map.2 fun x _ => (Real.exp_pos x).le)

private theorem sum_exp_pos (l : List ℝ) (hl : l ≠ []) : 0 < (l.map Real.exp).sum :=
  List.sum_pos _ (List.forall_mem_map.2 fun x _ => Real.exp_pos x) (mt List.map_eq_nil_iff.1 hl)

private theorem exp_le_sum_exp (l : List ℝ) (x : ℝ) (hx : x ∈ l) : Real.exp x ≤ (l.map Real.exp).sum :=
  List.single_le_sum (List.forall_mem_map.2 fun x _ => (Real.exp_pos x).le) _ (List.mem_map_of_mem hx)

/-- shifting the whole lane does not change Softmax -/
theorem softmaxSpec_shift (c : ℝ) (l : List ℝ) : softmaxSpec (l.map (· - c)) = softmaxSpec l := by
  simp only [softmaxSpec, List.map_map, Function.comp_def, Real.exp_sub, sum_map_div,
    div_div_div_cancel_right₀ (Real.exp_pos c).ne']

/-- **the kernel computes Softmax whatever the anchor**: it computes the Softmax of the lane shifted by
its running maximum -/
theorem softmaxLane_eq_spec (anchor : ℝ) (l : List ℝ) : softmaxLaneG realLane anchor l = softmaxSpec l := by
  simp only [softmaxLaneG, realLane]
  generalize List.foldl _ anchor l.tail = m
  rw [← softmaxSpec_shift m l]
  simp only [softmaxSpec, List.map_map, Function.comp_def, ← List.sum_eq_foldl, mul_one_div]

/-- **the kernel computes LogSoftmax whatever the anchor** (non-empty lane) -/
theorem logSoftmaxLane_eq_spec (anchor : ℝ) (l : List ℝ) (hl : l ≠ []) :
    logSoftmaxLaneG realLane anchor l = logSoftmaxSpec l := by
  simp only [logSoftmaxLaneG, realLane, logSoftmaxSpec, ← List.sum_eq_foldl, sum_exp_shift,
    Real.log_div (sum_exp_pos l hl).ne' (Real.exp_pos _).ne', Real.log_exp, sub_sub_sub_cancel_right]

/-- every slice sums to 1 -/
theorem softmaxSpec_sum (l : List ℝ) (hl : l ≠ []) : (softmaxSpec l).sum = 1 := by
  simp only [softmaxSpec]
  rw [sum_map_div]
  exact div_self (sum_exp_pos l hl).ne'

/-- all values lie in (0, 1] -/
theorem softmaxSpec_range (l : List ℝ) : ∀ y ∈ softmaxSpec l, 0 < y ∧ y ≤ 1 := by
  intro y hy
  simp only [softmaxSpec] at hy
  rcases List.mem_map.1 hy with ⟨x, hx, rfl⟩
  have hS := sum_exp_pos l (List.ne_nil_of_mem hx)
  exact ⟨div_pos (Real.exp_pos x) hS, (div_le_one hS).2 (exp_le_sum_exp l x hx)⟩

/-- Softmax preserves the order of the lane (so ArgMax ∘ Softmax = ArgMax) -/
theorem softmaxSpec_mono (l : List ℝ) (i j : Nat) (hi : i < l.length) (hj : j < l.length) (h : l[i] ≤ l[j]) :
    (softmaxSpec l).getD i 0 ≤ (softmaxSpec l).getD j 0 := by
  simp only [softmaxSpec, List.getD_eq_getElem?_getD, List.getElem?_map, List.getElem?_eq_getElem hi,
    List.getElem?_eq_getElem hj, Option.map_some, Option.getD_some]
  exact div_le_div_of_nonneg_right (Real.exp_le_exp.2 h) (sum_exp_nonneg l)

/-- LogSoftmax = log ∘ Softmax -/
theorem logSoftmaxSpec_eq_log_softmax (l : List ℝ) (hl : l ≠ []) : logSoftmaxSpec l = (softmaxSpec l).map Real.log := by
  simp only [logSoftmaxSpec, softmaxSpec, List.map_map, Function.comp_def,
    Real.log_div (Real.exp_pos _).ne' (sum_exp_pos l hl).ne', Real.log_exp]

/-- LogSoftmax is never positive -/
theorem logSoftmaxSpec_nonpos (l : List ℝ) : ∀ y ∈ logSoftmaxSpec l, y ≤ 0 := by
  intro y hy
  simp only [logSoftmaxSpec] at hy
  rcases List.mem_map.1 hy with ⟨x, hx, rfl⟩
  exact sub_nonpos.2 ((Real.le_log_iff_exp_le (sum_exp_pos l (List.ne_nil_of_mem hx))).2 (exp_le_sum_exp l x hx))

/-- exp of LogSoftmax sums to 1 -/
theorem logSoftmaxSpec_exp_sum (l : List ℝ) (hl : l ≠ []) : ((logSoftmaxSpec l).map Real.exp).sum = 1 := by
  have hS := sum_exp_pos l hl
  simp only [logSoftmaxSpec, List.map_map, Function.comp_def, sum_exp_shift, Real.exp_log hS]
  exact div_self hS.ne'

-- non-vacuity: a two-element lane
example : (softmaxSpec [0, 0]).sum = 1 := softmaxSpec_sum [0, 0] (by simp)
example : softmaxLaneG realLane 5 [1, 2, 3] = softmaxSpec [1, 2, 3] := softmaxLane_eq_spec 5 [1, 2, 3]

end Gonnx.C09b
