import Gonnx.Graph.Batch
import Gonnx.Proofs.Batch2
import Gonnx.Proofs.Batch2Conv
import Gonnx.Proofs.Batch2Rec
/-
C16, second part — the operators with weights act per sample: Gemm / LinearRegressor / Scaler and
elementwise operators against a weight (batch = axis 0), Flatten, Conv (batch = axis 0 of X and Y),
RNN / GRU / LSTM (batch = axis 1 of X and of the states, axis 2 of Y, axis 1 of Y_h / Y_c).
Equality is exact (fixed summation order), see the remark in C16.lean.
Proofs: Gonnx/Proofs/Batch2.lean (elementwise / Gemm / LinearRegressor / Scaler / Flatten),
Gonnx/Proofs/Batch2Conv.lean, Gonnx/Proofs/Batch2Rec.lean.
-/
namespace Gonnx.C16
open Gonnx Gonnx.Proofs Gonnx.C05
variable {α β : Type} [Inhabited α] [Inhabited β]

/-- a bias / second operand that does not carry the batch: rank below the data's, or leading extent 1 -/
def BatchFree (w : Tensor α) (rank : Nat) : Prop :=
  w.shape.length < rank ∨ (w.shape.length = rank ∧ dim w.shape 0 = 1)

-- the proof does not use `hW2`: a weight of another rank makes `mm2` fail, so the clause is vacuous there
set_option linter.unusedVariables false in
/-- Gemm against a weight `W` (either orientation) with a bias that does not carry the batch -/
theorem gemm_weight_pointwise (A : Arith α) (alpha beta : α) (tB : Bool) (W : Tensor α) (c : Option (Tensor α))
    (hW : Good W) (hW2 : W.shape.length = 2) (hc : ∀ t, c = some t → Good t ∧ BatchFree t 2) :
    BatchPointwise 0 0 (fun X => gemmOp A alpha beta false tB X W c) :=
  Proofs.Batch2.gemm_weight_pointwise A alpha beta tB W c hW hc

-- concrete instance shared by the non-vacuity examples below: a batch of 2 samples of 3 features, a 3×2
-- weight, a (1, 2) bias, a row of 3, a 2×3×2 batch
private def nv_A : Arith Int := ⟨0, (· + ·), (· * ·), (· - ·)⟩
private def nv_X : Tensor Int := ⟨[2, 3], [1, 2, 3, 4, 5, 6]⟩
private def nv_W : Tensor Int := ⟨[3, 2], [1, 0, 0, 1, 1, 1]⟩
private def nv_c : Tensor Int := ⟨[1, 2], [10, 20]⟩
private def nv_r : Tensor Int := ⟨[3], [10, 20, 30]⟩
private def nv_T : Tensor Int := ⟨[2, 3, 2], [1, 2, 3, 4, 5, 6, 7, 8, 9, 10, 11, 12]⟩
private theorem nv_goodX : Good nv_X := And.intro rfl (by decide)
private theorem nv_goodW : Good nv_W := And.intro rfl (by decide)
private theorem nv_goodr : Good nv_r := And.intro rfl (by decide)
private theorem nv_goodT : Good nv_T := And.intro rfl (by decide)
-- non-vacuity: Gemm (alpha 2, beta 3) against the 3×2 weight with the (1, 2) bias …
example : BatchPointwise 0 0 (fun X => gemmOp nv_A 2 3 false false X nv_W (some nv_c)) :=
  gemm_weight_pointwise nv_A 2 3 false nv_W (some nv_c) nv_goodW rfl
    (by intro t h; cases h; exact ⟨And.intro rfl (by decide), Or.inr ⟨rfl, rfl⟩⟩)
-- … and the resulting `BatchPointwise` is not vacuous either: the operator succeeds on the batch of two
example : gemmOp nv_A 2 3 false false (takeBatch 0 1 nv_X) nv_W (some nv_c) = .ok (takeBatch 0 1 ⟨[2, 2], [38, 70, 50, 82]⟩) :=
  (gemm_weight_pointwise nv_A 2 3 false nv_W (some nv_c) nv_goodW rfl
    (by intro t h; cases h; exact ⟨And.intro rfl (by decide), Or.inr ⟨rfl, rfl⟩⟩)
    nv_X ⟨[2, 2], [38, 70, 50, 82]⟩ nv_goodX (by decide) (by decide)).2.2.2 1 (by decide)

/-- LinearRegressor (coefficients and intercepts are attributes) -/
theorem linreg_pointwise (A : Arith α) (coef icpt : List α) (targets : Nat) :
    BatchPointwise 0 0 (fun X => linregOp A coef icpt targets X) :=
  Proofs.Batch2.linreg_pointwise A coef icpt targets

-- non-vacuity of the inner implications: 2 samples, 3 features, 2 targets; sample 1 alone
example : linregOp nv_A [1, 0, 0, 1, 1, 1] [10, 20] 2 (takeBatch 0 1 nv_X) = .ok (takeBatch 0 1 ⟨[2, 2], [11, 26, 14, 35]⟩) :=
  (linreg_pointwise nv_A [1, 0, 0, 1, 1, 1] [10, 20] 2 nv_X ⟨[2, 2], [11, 26, 14, 35]⟩ nv_goodX (by decide) (by decide)).2.2.2 1 (by decide)

/-- Scaler (offsets and scales are attributes), on a batch of rows -/
theorem scaler_pointwise (A : Arith α) (offset scale : List α) :
    ∀ X Y, Good X → X.shape.length = 2 → scalerOp A offset scale X = .ok Y →
      Good Y ∧ 0 < Y.shape.length ∧ dim Y.shape 0 = dim X.shape 0 ∧
      ∀ n, n < dim X.shape 0 → scalerOp A offset scale (takeBatch 0 n X) = .ok (takeBatch 0 n Y) :=
  Proofs.Batch2.scaler_pointwise A offset scale

-- non-vacuity of the inner implications: per-feature offsets, a single scale; sample 1 alone
example : scalerOp nv_A [1, 2, 3] [10] (takeBatch 0 1 nv_X) = .ok (takeBatch 0 1 ⟨[2, 3], [0, 0, 0, 30, 30, 30]⟩) :=
  (scaler_pointwise nv_A [1, 2, 3] [10] nv_X ⟨[2, 3], [0, 0, 0, 30, 30, 30]⟩ nv_goodX rfl (by decide)).2.2.2 1 (by decide)

/-- an elementwise binary operator against a weight that does not carry the batch (bias add, scaling,
comparison with a threshold …), weight on the right or on the left -/
theorem binary_weight_pointwise (f : α → α → β) (W : Tensor α) (hW : Good W) :
    ∀ X Y, Good X → BatchFree W X.shape.length → applyBinary f .multi X W = .ok Y →
      Good Y ∧ 0 < Y.shape.length ∧ dim Y.shape 0 = dim X.shape 0 ∧
      ∀ n, n < dim X.shape 0 → applyBinary f .multi (takeBatch 0 n X) W = .ok (takeBatch 0 n Y) :=
  Proofs.Batch2.binary_weight_pointwise f W hW

-- non-vacuity: subtracting a row of 3 (rank below the data's) from the batch of two; sample 1 alone
example : applyBinary (fun a b : Int => a - b) .multi (takeBatch 0 1 nv_X) nv_r = .ok (takeBatch 0 1 ⟨[2, 3], [-9, -18, -27, -6, -15, -24]⟩) :=
  (binary_weight_pointwise (fun a b : Int => a - b) nv_r nv_goodr nv_X ⟨[2, 3], [-9, -18, -27, -6, -15, -24]⟩ nv_goodX
    (Or.inl (by decide)) (by decide)).2.2.2 1 (by decide)

theorem binary_weight_left_pointwise (f : α → α → β) (W : Tensor α) (hW : Good W) :
    ∀ X Y, Good X → BatchFree W X.shape.length → applyBinary f .multi W X = .ok Y →
      Good Y ∧ 0 < Y.shape.length ∧ dim Y.shape 0 = dim X.shape 0 ∧
      ∀ n, n < dim X.shape 0 → applyBinary f .multi W (takeBatch 0 n X) = .ok (takeBatch 0 n Y) :=
  Proofs.Batch2.binary_weight_left_pointwise f W hW

-- non-vacuity: the weight on the left
example : applyBinary (fun a b : Int => a - b) .multi nv_r (takeBatch 0 1 nv_X) = .ok (takeBatch 0 1 ⟨[2, 3], [9, 18, 27, 6, 15, 24]⟩) :=
  (binary_weight_left_pointwise (fun a b : Int => a - b) nv_r nv_goodr nv_X ⟨[2, 3], [9, 18, 27, 6, 15, 24]⟩ nv_goodX
    (Or.inl (by decide)) (by decide)).2.2.2 1 (by decide)

/-- FALSE as first written (kept verbatim): "Flatten with axis ≥ 1 keeps the batch axis". For
axis ≥ 2 the leading extent of the result is the product of the first `axis` extents of the input,
not the batch extent, so axis 0 of the result is no longer the batch axis. -/
def flatten_pointwise_statement (α : Type) [Inhabited α] : Prop :=
  ∀ (axis : Int) (_hax : 1 ≤ axis), BatchPointwise (α := α) (β := α) 0 0 (fun X => flattenOp X axis)

/-- witness (for every element type): axis 2, a batch of one sample of shape (1, 2): the result has
shape (2, 1), its leading extent 2 is not the batch extent 1 -/
theorem flatten_pointwise_counterexample : ¬ flatten_pointwise_statement α := by
  intro h
  have h2 := h 2 (by decide) ⟨[1, 2], [default, default]⟩ ⟨[2, 1], [default, default]⟩
    ⟨rfl, by simp⟩ (by simp) rfl
  exact absurd h2.2.2.1 (by simp [dim])

/-- Flatten keeps the batch axis exactly when the flattening starts right after it: `hax1 : axis ≤ 1`
(with `1 ≤ axis`: axis = 1, the ONNX default) excludes every axis ≥ 2 — for each of those some input
(e.g. shape (1, 2, 1, …, 1)) violates the clause. -/
theorem flatten_pointwise_partial (axis : Int) (hax : 1 ≤ axis) (hax1 : axis ≤ 1) :
    BatchPointwise (α := α) (β := α) 0 0 (fun X => flattenOp X axis) := by
  have e : axis = 1 := by omega
  subst e
  exact Proofs.Batch2.flatten1_pointwise

-- non-vacuity: axis = 1 is the one axis the hypotheses allow (by design, see the docstring); a 2×3×2 batch
example : BatchPointwise (α := Int) (β := Int) 0 0 (fun X => flattenOp X 1) := flatten_pointwise_partial 1 (by decide) (by decide)
example : flattenOp (takeBatch 0 1 nv_T) 1 = .ok (takeBatch 0 1 ⟨[2, 6], [1, 2, 3, 4, 5, 6, 7, 8, 9, 10, 11, 12]⟩) :=
  (flatten_pointwise_partial (α := Int) 1 (by decide) (by decide) nv_T ⟨[2, 6], [1, 2, 3, 4, 5, 6, 7, 8, 9, 10, 11, 12]⟩ nv_goodT
    (by decide) (by decide)).2.2.2 1 (by decide)

-- the proof does not use `hWx`, `hWw`: both sides read these inputs through `Tensor.get` only
set_option linter.unusedVariables false in
/-- **Conv** (explicit pads; the guards of C05.conv_explicit_partial): the result for sample `n` of
a batch is what the sample gets when it is convolved alone -/
theorem conv_batch_partial (A : Arith α) (hA : ZeroLaws A) (x w : Tensor α) (bias : Option (Tensor α))
    (dil strides pads : List Nat)
    (hWx : x.WF) (hWw : w.WF) (hWb : ∀ b, bias = some b → b.WF)
    (hpx : Pos x.shape) (hpw : Pos w.shape)
    (hrank : x.shape.length = 3 ∨ x.shape.length = 4)
    (hdl : dil.length = x.shape.length - 2) (hsl : strides.length = x.shape.length - 2)
    (hpl : pads.length = 2 * (x.shape.length - 2))
    (hdp : ∀ d ∈ dil, 0 < d) (hsp : ∀ s ∈ strides, 0 < s)
    (hk2 : ∀ k ∈ dkernel w dil, 2 ≤ k)
    (s : Tensor α) (hs : Spec.conv A "NOTSET" dil strides pads x w bias = some s)
    (n : Nat) (hn : n < dim x.shape 0) :
    let at0 : ConvAttrs := { autoPad := "NOTSET", dilations := dil, strides := strides, pads := pads.map (fun (p : Nat) => (p : Int)) }
    ∃ m mn, convOp A at0 x w bias = .ok m ∧ convOp A at0 (takeBatch 0 n x) w bias = .ok mn ∧
      Equiv mn (takeBatch 0 n m) :=
  Proofs.Batch2.conv_batch_partial A hA x w bias dil strides pads hWb hpx hpw hrank hdl hsl hpl hdp hsp hk2 s hs n hn

-- non-vacuity: the instance of `C05.conv_explicit_partial` (N = 2, C = 2, M = 2, 3×4 image, 2×2 kernel,
-- dilations (2, 1), strides (1, 2), pads 1 1 0 0, bias), sample 1
private def nv_cx : Tensor Int := ⟨[2, 2, 3, 4], (List.range 48).map (fun (n : Nat) => (n : Int) - 20)⟩
private def nv_cw : Tensor Int := ⟨[2, 2, 2, 2], [1, 2, 3, 4, 5, 6, 7, 8, -1, 0, 1, 0, 2, -2, 3, -3]⟩
private def nv_cb : Tensor Int := ⟨[2], [100, 200]⟩
example :
    ∃ m mn, convOp nv_A { autoPad := "NOTSET", dilations := [2, 1], strides := [1, 2], pads := [1, 1, 0, 0].map (fun (p : Nat) => (p : Int)) } nv_cx nv_cw (some nv_cb) = .ok m ∧
      convOp nv_A { autoPad := "NOTSET", dilations := [2, 1], strides := [1, 2], pads := [1, 1, 0, 0].map (fun (p : Nat) => (p : Int)) } (takeBatch 0 1 nv_cx) nv_cw (some nv_cb) = .ok mn ∧
      Equiv mn (takeBatch 0 1 m) :=
  conv_batch_partial nv_A ⟨Int.add_zero, Int.zero_mul, Int.mul_zero⟩ nv_cx nv_cw (some nv_cb) [2, 1] [1, 2] [1, 1, 0, 0]
    rfl rfl (by intro b h; cases h; rfl) (by decide) (by decide)
    (by decide) (by decide) (by decide) (by decide) (by decide) (by decide) (by decide)
    ⟨[2, 2, 2, 2], [4, -38, -36, -76, 212, 182, 216, 203, 292, 490, 444, 788, 140, 206, 96, 203]⟩ (by decide +kernel) 1 (by decide)

-- the proofs do not use `hWX`, `hWW`, `hWR`, `hWB` (and `hWP` below): these inputs are read through `Tensor.get` only
set_option linter.unusedVariables false in
/-- **RNN**: sample `n` (axis 1 of X and H0) evaluated alone gives slice `n` of Y (axis 2) and Y_h (axis 1) -/
theorem rnn_batch_partial (A : Arith α) (one : α) (hone : ∀ v, A.mul v one = v)
    (getAct : String → Option (α → α)) (name : String) (f : α → α) (hact : getAct name = some f)
    (d : Spec.RecDims) (X W R : Tensor α) (B H0 : Option (Tensor α))
    (hh : 2 ≤ d.hidden) (hi : 2 ≤ d.input) (hb : 1 ≤ d.batch) (hsq : 1 ≤ d.seq)
    (hWX : X.WF) (hWW : W.WF) (hWR : R.WF) (hWB : ∀ b, B = some b → b.WF) (hWH : ∀ h, H0 = some h → h.WF)
    (s : Tensor α × Tensor α) (hs : Spec.rnn A f d X W R B H0 = some s)
    (n : Nat) (hn : n < d.batch) :
    let at0 : RecAttrs := { hiddenSize := d.hidden, activations := [name] }
    ∃ y yh y1 yh1, rnnOp A one getAct at0 X W R B none H0 = .ok (y, yh) ∧
      rnnOp A one getAct at0 (takeBatch 1 n X) W R B none (H0.map (takeBatch 1 n)) = .ok (y1, yh1) ∧
      Equiv y1 (takeBatch 2 n y) ∧ Equiv yh1 (takeBatch 1 n yh) :=
  Proofs.Batch2.rnn_batch_partial A one hone getAct name f hact d X W R B H0 hh hi hb hsq hWH s hs n hn

-- non-vacuity: the instance of `C06.rnn_partial` (seq 2, batch 2, input 3, hidden 2, bias, initial state), sample 1
private def nv_f : Int → Int := fun v => v % 3
private def nv_g : Int → Int := fun v => if v > 4 then 4 else if v < -4 then -4 else v
private def nv_act : String → Option (Int → Int) := fun n => if n = "f" then some nv_f else if n = "g" then some nv_g else none
private def nv_seqT (shape : List Nat) (k : Int) : Tensor Int := ⟨shape, (List.range (prod shape)).map fun (n : Nat) => ((n : Int) * k) % 5 - 2⟩
private def nv_d : Spec.RecDims := ⟨2, 2, 3, 2⟩
private def nv_RX : Tensor Int := ⟨[2, 2, 3], [1, -1, 2, 0, 1, 1, 2, 1, -2, 1, 0, 1]⟩
private def nv_H0 : Tensor Int := ⟨[1, 2, 2], [1, 0, -1, 2]⟩
private def nv_C0 : Tensor Int := ⟨[1, 2, 2], [0, 1, 1, -1]⟩
private def nv_rnnS : Tensor Int × Tensor Int := (⟨[2, 1, 2, 2], [-4, 0, 0, -4, 4, 0, -4, 4]⟩, ⟨[1, 2, 2], [4, 0, -4, 4]⟩)
example : ∃ y yh y1 yh1, rnnOp nv_A 1 nv_act { hiddenSize := nv_d.hidden, activations := ["g"] } nv_RX (nv_seqT [1, 2, 3] 3) (nv_seqT [1, 2, 2] 2) (some (nv_seqT [1, 4] 1)) none (some nv_H0) = .ok (y, yh) ∧
      rnnOp nv_A 1 nv_act { hiddenSize := nv_d.hidden, activations := ["g"] } (takeBatch 1 1 nv_RX) (nv_seqT [1, 2, 3] 3) (nv_seqT [1, 2, 2] 2) (some (nv_seqT [1, 4] 1)) none ((some nv_H0).map (takeBatch 1 1)) = .ok (y1, yh1) ∧
      Equiv y1 (takeBatch 2 1 y) ∧ Equiv yh1 (takeBatch 1 1 yh) :=
  rnn_batch_partial nv_A 1 Int.mul_one nv_act "g" nv_g rfl nv_d nv_RX (nv_seqT [1, 2, 3] 3) (nv_seqT [1, 2, 2] 2) (some (nv_seqT [1, 4] 1)) (some nv_H0)
    (by decide) (by decide) (by decide) (by decide) rfl rfl rfl (by intro b h; cases h; rfl) (by intro b h; cases h; rfl)
    nv_rnnS (by decide +kernel) 1 (by decide)

set_option linter.unusedVariables false in
/-- **GRU**, both values of linear_before_reset -/
theorem gru_batch_partial (A : Arith α) (one : α) (hone : ∀ v, A.mul v one = v)
    (getAct : String → Option (α → α)) (n1 n2 : String) (f g : α → α) (h1 : getAct n1 = some f) (h2 : getAct n2 = some g)
    (lbr : Bool) (d : Spec.RecDims) (X W R : Tensor α) (B H0 : Option (Tensor α))
    (hh : 2 ≤ d.hidden) (hi : 2 ≤ d.input) (hb : 1 ≤ d.batch) (hsq : 1 ≤ d.seq)
    (hWX : X.WF) (hWW : W.WF) (hWR : R.WF) (hWB : ∀ b, B = some b → b.WF) (hWH : ∀ h, H0 = some h → h.WF)
    (s : Tensor α × Tensor α) (hs : Spec.gru A one f g lbr d X W R B H0 = some s)
    (n : Nat) (hn : n < d.batch) :
    let at0 : RecAttrs := { hiddenSize := d.hidden, activations := [n1, n2], linearBeforeReset := lbr }
    ∃ y yh y1 yh1, gruOp A one getAct at0 X W R B none H0 = .ok (y, yh) ∧
      gruOp A one getAct at0 (takeBatch 1 n X) W R B none (H0.map (takeBatch 1 n)) = .ok (y1, yh1) ∧
      Equiv y1 (takeBatch 2 n y) ∧ Equiv yh1 (takeBatch 1 n yh) :=
  Proofs.Batch2.gru_batch_partial A one hone getAct n1 n2 f g h1 h2 lbr d X W R B H0 hh hi hb hsq hWH s hs n hn

-- non-vacuity: the instance of `C06.gru_partial`, both values of linear_before_reset, sample 1
private def nv_gruS (lbr : Bool) : Tensor Int × Tensor Int :=
  if lbr then (⟨[2, 1, 2, 2], [6, 4, -6, 6, 16, -4, 4, 8]⟩, ⟨[1, 2, 2], [16, -4, 4, 8]⟩)
  else (⟨[2, 1, 2, 2], [6, 4, -4, 7, 16, -4, -11, 12]⟩, ⟨[1, 2, 2], [16, -4, -11, 12]⟩)
example (lbr : Bool) : ∃ y yh y1 yh1, gruOp nv_A 1 nv_act { hiddenSize := nv_d.hidden, activations := ["f", "g"], linearBeforeReset := lbr } nv_RX (nv_seqT [1, 6, 3] 3) (nv_seqT [1, 6, 2] 2) (some (nv_seqT [1, 12] 1)) none (some nv_H0) = .ok (y, yh) ∧
      gruOp nv_A 1 nv_act { hiddenSize := nv_d.hidden, activations := ["f", "g"], linearBeforeReset := lbr } (takeBatch 1 1 nv_RX) (nv_seqT [1, 6, 3] 3) (nv_seqT [1, 6, 2] 2) (some (nv_seqT [1, 12] 1)) none ((some nv_H0).map (takeBatch 1 1)) = .ok (y1, yh1) ∧
      Equiv y1 (takeBatch 2 1 y) ∧ Equiv yh1 (takeBatch 1 1 yh) :=
  gru_batch_partial nv_A 1 Int.mul_one nv_act "f" "g" nv_f nv_g rfl rfl lbr nv_d nv_RX (nv_seqT [1, 6, 3] 3) (nv_seqT [1, 6, 2] 2) (some (nv_seqT [1, 12] 1)) (some nv_H0)
    (by decide) (by decide) (by decide) (by decide) rfl rfl rfl (by intro b h; cases h; rfl) (by intro b h; cases h; rfl)
    (nv_gruS lbr) (by cases lbr <;> decide +kernel) 1 (by decide)

set_option linter.unusedVariables false in
/-- **LSTM** (with or without initial states and peepholes) -/
theorem lstm_batch_partial (A : Arith α) (one : α) (hone : ∀ v, A.mul v one = v)
    (getAct : String → Option (α → α)) (n1 n2 n3 : String) (f g h : α → α)
    (h1 : getAct n1 = some f) (h2 : getAct n2 = some g) (h3 : getAct n3 = some h)
    (d : Spec.RecDims) (X W R : Tensor α) (B H0 C0 P : Option (Tensor α))
    (hh : 2 ≤ d.hidden) (hi : 2 ≤ d.input) (hb : 1 ≤ d.batch) (hsq : 1 ≤ d.seq)
    (hWX : X.WF) (hWW : W.WF) (hWR : R.WF) (hWB : ∀ b, B = some b → b.WF) (hWH : ∀ t, H0 = some t → t.WF)
    (hWC : ∀ t, C0 = some t → t.WF) (hWP : ∀ t, P = some t → t.WF)
    (s : Tensor α × Tensor α × Tensor α) (hs : Spec.lstm A f g h d X W R B H0 C0 P = some s)
    (n : Nat) (hn : n < d.batch) :
    let at0 : RecAttrs := { hiddenSize := d.hidden, activations := [n1, n2, n3] }
    ∃ y yh yc y1 yh1 yc1, lstmOp A one getAct at0 X W R B none H0 C0 P = .ok (y, yh, yc) ∧
      lstmOp A one getAct at0 (takeBatch 1 n X) W R B none (H0.map (takeBatch 1 n)) (C0.map (takeBatch 1 n)) P = .ok (y1, yh1, yc1) ∧
      Equiv y1 (takeBatch 2 n y) ∧ Equiv yh1 (takeBatch 1 n yh) ∧ Equiv yc1 (takeBatch 1 n yc) :=
  Proofs.Batch2.lstm_batch_partial A one hone getAct n1 n2 n3 f g h h1 h2 h3 d X W R B H0 C0 P hh hi hb hsq
    hWH hWC s hs n hn

-- non-vacuity: the instance of `C06.lstm_partial` (bias, both initial states, peepholes), sample 1
private def nv_lstmS : Tensor Int × Tensor Int × Tensor Int :=
  (⟨[2, 1, 2, 2], [0, 2, -4, 0, 8, 0, -8, -4]⟩, ⟨[1, 2, 2], [8, 0, -8, -4]⟩, ⟨[1, 2, 2], [8, -8, -16, -19]⟩)
example : ∃ y yh yc y1 yh1 yc1, lstmOp nv_A 1 nv_act { hiddenSize := nv_d.hidden, activations := ["f", "g", "g"] } nv_RX
        (nv_seqT [1, 8, 3] 3) (nv_seqT [1, 8, 2] 2) (some (nv_seqT [1, 16] 1)) none (some nv_H0) (some nv_C0) (some (nv_seqT [1, 6] 4)) = .ok (y, yh, yc) ∧
      lstmOp nv_A 1 nv_act { hiddenSize := nv_d.hidden, activations := ["f", "g", "g"] } (takeBatch 1 1 nv_RX)
        (nv_seqT [1, 8, 3] 3) (nv_seqT [1, 8, 2] 2) (some (nv_seqT [1, 16] 1)) none ((some nv_H0).map (takeBatch 1 1)) ((some nv_C0).map (takeBatch 1 1)) (some (nv_seqT [1, 6] 4)) = .ok (y1, yh1, yc1) ∧
      Equiv y1 (takeBatch 2 1 y) ∧ Equiv yh1 (takeBatch 1 1 yh) ∧ Equiv yc1 (takeBatch 1 1 yc) :=
  lstm_batch_partial nv_A 1 Int.mul_one nv_act "f" "g" "g" nv_f nv_g nv_g rfl rfl rfl nv_d nv_RX
    (nv_seqT [1, 8, 3] 3) (nv_seqT [1, 8, 2] 2) (some (nv_seqT [1, 16] 1)) (some nv_H0) (some nv_C0) (some (nv_seqT [1, 6] 4))
    (by decide) (by decide) (by decide) (by decide) rfl rfl rfl (by intro b h; cases h; rfl) (by intro b h; cases h; rfl)
    (by intro b h; cases h; rfl) (by intro b h; cases h; rfl) nv_lstmS (by decide +kernel) 1 (by decide)

-- non-vacuity: a Gemm with a (1, n) bias on a batch of two, sample 1 alone is row 1 of the batch result;
-- the hypotheses of the RNN clause are satisfiable (batch of two, hidden = input = 2)
example :
    let A : Arith Int := ⟨0, (· + ·), (· * ·), (· - ·)⟩
    let X : Tensor Int := ⟨[2, 2], [1, 2, 3, 4]⟩
    let W : Tensor Int := ⟨[2, 2], [1, 0, 2, 1]⟩
    let c : Tensor Int := ⟨[1, 2], [10, 20]⟩
    gemmOp A 1 1 false true X W (some c) = .ok ⟨[2, 2], [11, 24, 13, 30]⟩ ∧
    gemmOp A 1 1 false true (takeBatch 0 1 X) W (some c) = .ok ⟨[1, 2], [13, 30]⟩ ∧
    takeBatch 0 1 (⟨[2, 2], [11, 24, 13, 30]⟩ : Tensor Int) = ⟨[1, 2], [13, 30]⟩ ∧
    (Spec.rnn A (fun v => v) ⟨1, 2, 2, 2⟩ ⟨[1, 2, 2], [1, 2, 3, 4]⟩ ⟨[1, 2, 2], [1, 0, 0, 1]⟩ ⟨[1, 2, 2], [0, 1, 1, 0]⟩
      none none).isSome = true := by decide +kernel

end Gonnx.C16
