import Gonnx.Ops.Conv
import Gonnx.Spec.Conv
import Gonnx.Proofs.Conv
import Gonnx.Theorems.C05
/-
C05, second part — Conv with an auto_pad mode equals the direct convolution with the ONNX pads of that mode.
-/
namespace Gonnx.C05
open Gonnx Gonnx.Proofs
variable {α : Type} [Inhabited α]

-- the proof does not use `hWx`, `hWw`: both sides read the inputs through `Tensor.get` only
set_option linter.unusedVariables false in
/-- **Conv with auto_pad SAME_UPPER / SAME_LOWER = direct convolution with the ONNX pads** (partial):
1-D and 2-D, any N, C, M, spatial / kernel extents, strides and dilations, with or without bias — under
the guards of `conv_explicit_partial` (dilated kernel extents ≥ 2) and of `autopad_eq_spec_partial`
(the padding needed is not negative: kernel not smaller than the stride remainder). -/
theorem conv_autopad_partial (A : Arith α) (hA : ZeroLaws A) (x w : Tensor α) (bias : Option (Tensor α))
    (mode : String) (hm : mode = "SAME_UPPER" ∨ mode = "SAME_LOWER")
    (dil strides : List Nat)
    (hWx : x.WF) (hWw : w.WF) (hWb : ∀ b, bias = some b → b.WF)
    (hpx : Pos x.shape) (hpw : Pos w.shape)
    (hrank : x.shape.length = 3 ∨ x.shape.length = 4)
    (hdl : dil.length = x.shape.length - 2) (hsl : strides.length = x.shape.length - 2)
    (hdp : ∀ d ∈ dil, 0 < d) (hsp : ∀ s ∈ strides, 0 < s)
    (hk2 : ∀ k ∈ dkernel w dil, 2 ≤ k)
    (hneed : ∀ i, i < x.shape.length - 2 →
      dim (x.shape.drop 2) i ≤ ((dim (x.shape.drop 2) i + dim strides i - 1) / dim strides i - 1) * dim strides i + dim (dkernel w dil) i)
    (s : Tensor α) (hs : Spec.conv A mode dil strides [] x w bias = some s) :
    ∃ m, convOp A { autoPad := mode, dilations := dil, strides := strides, pads := [] } x w bias = .ok m ∧
      Equiv m s :=
  Proofs.Conv2.conv_autopad_partial A hA x w bias mode hm dil strides hWb hpx hpw hrank hdl hsl hdp hsp hk2 hneed s hs

-- non-vacuity, 2-D: N = 2, C = 2, M = 2, a 3×4 image, a 2×2 kernel, strides (1, 2), SAME_LOWER (ONNX pads
-- 1 0 0 0, output 3×2), with a bias: every hypothesis is discharged (a 1-D instance follows below)
private def nv_A : Arith Int := ⟨0, (· + ·), (· * ·), (· - ·)⟩
private def nv_x : Tensor Int := ⟨[2, 2, 3, 4], (List.range 48).map (fun (n : Nat) => (n : Int) - 20)⟩
private def nv_w : Tensor Int := ⟨[2, 2, 2, 2], [1, 2, 3, 4, 5, 6, 7, 8, -1, 0, 1, 0, 2, -2, 3, -3]⟩
private def nv_bias : Tensor Int := ⟨[2], [100, 200]⟩
example :
    ∃ m, convOp nv_A { autoPad := "SAME_LOWER", dilations := [1, 1], strides := [1, 2], pads := [] } nv_x nv_w (some nv_bias) = .ok m ∧
      Equiv m ⟨[2, 2, 3, 2], [-148, -104, -200, -128, -56, 16, 177, 179, 199, 199, 199, 199,
                               380, 424, 664, 736, 808, 880, 201, 203, 199, 199, 199, 199]⟩ :=
  conv_autopad_partial nv_A ⟨Int.add_zero, Int.zero_mul, Int.mul_zero⟩ nv_x nv_w (some nv_bias) "SAME_LOWER" (Or.inr rfl) [1, 1] [1, 2]
    rfl rfl (by intro b h; cases h; rfl) (by decide) (by decide)
    (by decide) (by decide) (by decide) (by decide) (by decide) (by decide) (by decide) _ (by decide +kernel)

/-- auto_pad VALID is computed as SAME_UPPER (known finding conv.auto_pad_valid): whenever SAME_UPPER
needs any padding the result differs from the ONNX value — witness -/
theorem conv_autopad_valid_counterexample :
    let A : Arith Int := ⟨0, (· + ·), (· * ·), (· - ·)⟩
    let x : Tensor Int := ⟨[1, 1, 3], [1, 2, 3]⟩
    let w : Tensor Int := ⟨[1, 1, 2], [1, 1]⟩
    (convOp A { autoPad := "VALID", dilations := [], strides := [], pads := [] } x w none).toOption.map (·.shape) = some [1, 1, 3] ∧
    (Spec.conv A "VALID" [] [] [] x w none).map (·.shape) = some [1, 1, 2] := by
  decide +kernel

/-- non-vacuity of `conv_autopad_partial`: a 1×1×5 input, 1×1×3 kernel, stride 2, SAME_UPPER (ONNX pads
`[1, 1]`, output extent `⌈5/2⌉ = 3`) meets every hypothesis; the theorem yields the model's result -/
example :
    ∃ m, convOp (⟨0, (· + ·), (· * ·), (· - ·)⟩ : Arith Int)
        { autoPad := "SAME_UPPER", dilations := [1], strides := [2], pads := [] }
        ⟨[1, 1, 5], [1, 2, 3, 4, 5]⟩ ⟨[1, 1, 3], [1, 1, 1]⟩ none = .ok m ∧
      Equiv m ⟨[1, 1, 3], [3, 9, 9]⟩ :=
  conv_autopad_partial (⟨0, (· + ·), (· * ·), (· - ·)⟩ : Arith Int)
    ⟨fun a => Int.add_zero a, fun a => Int.zero_mul a, fun a => Int.mul_zero a⟩
    ⟨[1, 1, 5], [1, 2, 3, 4, 5]⟩ ⟨[1, 1, 3], [1, 1, 1]⟩ none "SAME_UPPER" (Or.inl rfl) [1] [2]
    (by unfold Tensor.WF; decide) (by unfold Tensor.WF; decide) (by intro b hb; cases hb)
    (by decide) (by decide) (by decide) (by decide) (by decide)
    (by decide) (by decide) (by decide)
    (by intro i hi; have : i = 0 := by simpa using hi
        subst this; decide)
    ⟨[1, 1, 3], [3, 9, 9]⟩ (by decide +kernel)

-- the same request evaluated on both sides
example :
    convOp (⟨0, (· + ·), (· * ·), (· - ·)⟩ : Arith Int)
        { autoPad := "SAME_UPPER", dilations := [1], strides := [2], pads := [] }
        ⟨[1, 1, 5], [1, 2, 3, 4, 5]⟩ ⟨[1, 1, 3], [1, 1, 1]⟩ none = .ok ⟨[1, 1, 3], [3, 9, 9]⟩ ∧
    Spec.conv (⟨0, (· + ·), (· * ·), (· - ·)⟩ : Arith Int) "SAME_UPPER" [1] [2] []
        ⟨[1, 1, 5], [1, 2, 3, 4, 5]⟩ ⟨[1, 1, 3], [1, 1, 1]⟩ none = some ⟨[1, 1, 3], [3, 9, 9]⟩ := by decide +kernel

end Gonnx.C05
