import Gonnx.Ops.Const
import Gonnx.Proofs.Binary
import Gonnx.Theorems.C03b
import Gonnx.Proofs.MapM
/-
C11 — Constant, ConstantOfShape and Cast yield the specified values and element type.
Model: Gonnx/Ops/Const.lean. The elementwise conversion `conv : DType → DType → α → β` is a parameter;
for the integer types its two's-complement semantics is modelled (`wrapInt`) and exactness on
representable values is proved.
-/
namespace Gonnx.C11
open Gonnx
variable {α β : Type}

-- concrete instance shared by the non-vacuity examples below: an elementwise conversion that wraps to
-- 8 bits for the target uint8, a 2×3 tensor with values inside and outside that range
private def nv_conv : DType → DType → Int → Int := fun _ tgt v => if tgt = .u8 then v % 256 else v
private def nv_t : Tensor Int := ⟨[2, 3], [1, -2, 300, 4, 255, 256]⟩

/-- **Cast**: for each of the ten numeric target codes and every numeric source type the result has
the target type, the input's shape, and every element is the conversion of the input element -/
theorem cast_ok (conv : DType → DType → α → β) (src : DType) (to : Int) (t : Tensor α) (tgt : DType)
    (hs : castSource src = true) (ht : castTarget to = some tgt)
    (hsc : ¬ (t.shape = [] ∧ scalarToSliceMissing src = true)) :
    castOp conv src to t = .ok (tgt, t.map (conv src tgt)) := by
  unfold castOp
  rw [if_neg hsc]
  simp [hs, ht]

-- non-vacuity: int32 → uint8 (code 2) on the 2×3 tensor
example : castOp nv_conv .i32 2 nv_t = .ok (.u8, nv_t.map (nv_conv .i32 .u8)) :=
  cast_ok nv_conv .i32 2 nv_t .u8 rfl rfl (by decide)
example : nv_t.map (nv_conv .i32 .u8) = ⟨[2, 3], [1, 254, 44, 4, 255, 0]⟩ := by decide

theorem cast_shape_get [Inhabited α] [Inhabited β] (conv : DType → DType → α → β) (src : DType) (to : Int) (t : Tensor α)
    (tgt : DType) (out : Tensor β) (h : castOp conv src to t = .ok (tgt, out)) (hW : t.WF) :
    out.shape = t.shape ∧ castTarget to = some tgt ∧
    ∀ idx, InRange idx t.shape → out.get idx = conv src tgt (t.get idx) := by
  unfold castOp at h
  have h := Proofs.ok_of_ite_error (Proofs.ok_of_ite_error h)
  cases ht : castTarget to with
  | none =>
    rw [ht] at h
    cases h
  | some tgt' =>
    rw [ht] at h
    cases h
    exact ⟨rfl, rfl, fun _ hidx => Tensor.get_map _ hW hidx⟩

-- non-vacuity: the same request, read back
example : (⟨[2, 3], [1, 254, 44, 4, 255, 0]⟩ : Tensor Int).shape = nv_t.shape ∧ castTarget 2 = some .u8 ∧
    ∀ idx, InRange idx nv_t.shape → (⟨[2, 3], [1, 254, 44, 4, 255, 0]⟩ : Tensor Int).get idx = nv_conv .i32 .u8 (nv_t.get idx) :=
  cast_shape_get nv_conv .i32 2 nv_t .u8 ⟨[2, 3], [1, 254, 44, 4, 255, 0]⟩ (by decide) rfl

/-- unsupported targets (bool, string, float16, bfloat16, complex, undefined, unknown codes) and
non-numeric sources are refused with the conversion error -/
theorem cast_refuses_target (conv : DType → DType → α → β) (src : DType) (to : Int) (t : Tensor α)
    (ht : castTarget to = none) (hsc : ¬ (t.shape = [] ∧ scalarToSliceMissing src = true)) :
    castOp conv src to t = .error .conversion := by
  unfold castOp
  rw [if_neg hsc]
  split
  · rfl
  · simp [ht]

-- non-vacuity: target code 9 (bool)
example : castOp nv_conv .i32 9 nv_t = .error .conversion :=
  cast_refuses_target nv_conv .i32 9 nv_t rfl (by decide)

/-- the ten target codes are exactly the ONNX codes of the ten numeric element types -/
theorem cast_targets : [1, 2, 3, 4, 5, 6, 7, 11, 12, 13].map castTarget =
    [some DType.f32, some .u8, some .i8, some .u16, some .i16, some .i32, some .i64, some .f64, some .u32, some .u64] ∧
    [0, 8, 9, 10, 14, 15, 16, 17].map castTarget = List.replicate 8 none := by
  decide

/-- a scalar of an unsigned type panics (known finding cast.scalar_unsigned_source) -/
theorem cast_scalar_unsigned_panics (conv : DType → DType → α → β) (to : Int) (t : Tensor α) (h : t.shape = []) :
    castOp conv .u32 to t = .error .panic := by
  unfold castOp
  rw [if_pos ⟨h, rfl⟩]

-- non-vacuity: the statement is about scalar tensors, so the instance is one
example : castOp nv_conv .u32 1 ⟨[], [5]⟩ = .error .panic :=
  cast_scalar_unsigned_panics nv_conv 1 ⟨[], [5]⟩ rfl

/-- two's-complement / unsigned wrap of an integer to a `bits`-wide type -/
def wrapInt (bits : Nat) (signed : Bool) (v : Int) : Int :=
  let m : Int := 2 ^ bits
  let r := v % m
  if signed && r ≥ m / 2 then r - m else r

/-- **exact when representable**: converting a value that lies in the target's range does not change it -/
theorem wrapInt_representable (bits : Nat) (hb : 0 < bits) (signed : Bool) (v : Int)
    (h : if signed then -(2 ^ (bits - 1) : Int) ≤ v ∧ v < 2 ^ (bits - 1) else 0 ≤ v ∧ v < 2 ^ bits) :
    wrapInt bits signed v = v :=
  C03b.wrapBits_unique bits hb signed v v h rfl

-- non-vacuity: −100 in int8, 40000 in uint16
example : wrapInt 8 true (-100) = -100 := wrapInt_representable 8 (by decide) true (-100) (by decide)
example : wrapInt 16 false 40000 = 40000 := wrapInt_representable 16 (by decide) false 40000 (by decide)

/-- **ConstantOfShape**: every requested extent ≥ 1 ⇒ a tensor of exactly the requested shape whose
elements all equal the value; a zero or negative extent ⇒ error -/
theorem constantOfShape_ok (zeroPlus : α → α) (value : α) (shape : List Int) (h : ∀ d ∈ shape, 1 ≤ d) :
    ∃ t, constantOfShapeOp zeroPlus value shape = .ok t ∧ t.shape = shape.map Int.toNat ∧ t.WF ∧
      ∀ x ∈ t.data, x = zeroPlus value := by
  have hany : shape.any (· ≤ 0) = false := by
    rw [List.any_eq_false]
    intro d hd
    have := h d hd
    simp; omega
  refine ⟨⟨shape.map Int.toNat, List.replicate (prod (shape.map Int.toNat)) (zeroPlus value)⟩, ?_, rfl, ?_, ?_⟩
  · unfold constantOfShapeOp
    simp [hany]
  · simp [Tensor.WF]
  · intro x hx
    exact (List.mem_replicate.1 hx).2

-- non-vacuity: shape 2×3, value 7
example : ∃ t, constantOfShapeOp (fun v : Int => 0 + v) 7 [2, 3] = .ok t ∧ t.shape = [2, 3].map Int.toNat ∧ t.WF ∧
      ∀ x ∈ t.data, x = (fun v : Int => 0 + v) 7 :=
  constantOfShape_ok (fun v : Int => 0 + v) 7 [2, 3] (by decide)

theorem constantOfShape_refuses (zeroPlus : α → α) (value : α) (shape : List Int) (d : Int) (hd : d ∈ shape) (h0 : d ≤ 0) :
    constantOfShapeOp zeroPlus value shape = .error .invalidTensor := by
  have hany : shape.any (· ≤ 0) = true := by
    rw [List.any_eq_true]
    exact ⟨d, hd, by simpa using h0⟩
  unfold constantOfShapeOp
  simp only [hany, if_true]

-- non-vacuity: a zero extent in the middle
example : constantOfShapeOp (fun v : Int => 0 + v) 7 [2, 0, 3] = .error .invalidTensor :=
  constantOfShape_refuses _ 7 [2, 0, 3] 0 (by decide) (by decide)

/-- the conversion model of this file is the reduction the driver applies (`Gonnx.wrapBits`, whose
homomorphism / range / uniqueness theorems are in `Theorems/C03b.lean`) -/
theorem wrapInt_eq_wrapBits : @wrapInt = @Gonnx.wrapBits := rfl

end Gonnx.C11
