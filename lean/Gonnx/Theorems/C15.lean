import Gonnx.Gate
import Gonnx.Generated.Registry
import Gonnx.Spec.Arity
import Gonnx.Spec.Types
import Gonnx.Spec.Defaults
import Gonnx.Proofs.Assoc
/-
C15 — every operator's input gate enforces arity and element types before computing.

The gate model (`Gonnx/Gate.lean`) mirrors ops/validate_inputs.go; the descriptor table
`Generated.registry` is regenerated from the running code on every run, so the obligations
over it below (`decide`, `rfl`) are re-proved against what the code says now.
-/
namespace Gonnx.C15
open Gonnx

/-- the constraint list covers every position the gate may look at -/
def WFdesc (d : OpDesc) : Prop := d.max ≤ d.constraints.length

instance (d : OpDesc) : Decidable (WFdesc d) := inferInstanceAs (Decidable (_ ≤ _))

/-- element type `t` is allowed at position `i` (an absent input is always allowed) -/
def typeOk (cons : List (List DType)) (i : Nat) : Option DType → Bool
  | none => true
  | some t => (cons.getD i []).contains t

/-- all entries of `ins`, sitting at positions `i, i+1, …`, are allowed -/
def allOkFrom (cons : List (List DType)) : Nat → List (Option DType) → Bool
  | _, [] => true
  | i, t :: rest => typeOk cons i t && allOkFrom cons (i+1) rest

/-- the decision rule of the property, as a function -/
def gateRule (d : OpDesc) (ins : List (Option DType)) : Res (List (Option DType)) :=
  if ins.length < d.min ∨ d.max < ins.length then .error .inputCount
  else if allOkFrom d.constraints 0 ins then .ok (ins ++ List.replicate (d.max - ins.length) none)
  else .error .inputType

-- concrete instance shared by the non-vacuity examples below: the GRU descriptor (3 required and 3
-- optional inputs, as in the registry) and a call that leaves one optional input empty and omits the last
private def nv_gru : OpDesc :=
  { name := "GRU", str := "gru operator", min := 3, max := 6,
    constraints := [[.f32, .f64], [.f32, .f64], [.f32, .f64], [.f32, .f64], [.i32], [.f32, .f64]] }
private def nv_ins : List (Option DType) := [some .f32, some .f64, some .f32, none, some .i32]

theorem checkTypesFrom_spec (cons : List (List DType)) (i : Nat) (ins : List (Option DType))
    (h : i + ins.length ≤ cons.length) :
    checkTypesFrom cons i ins = if allOkFrom cons i ins then .ok () else .error .inputType := by
  induction ins generalizing i with
  | nil => rfl
  | cons t rest ih =>
    rw [List.length_cons] at h
    have ih := ih (i + 1) (by omega)
    cases t with
    | none => exact ih   -- both sides compute to those of `ih`
    | some t =>
      obtain ⟨allowed, hi⟩ : ∃ a, cons[i]? = some a := ⟨_, List.getElem?_eq_getElem (by omega)⟩
      simp only [checkTypesFrom, allOkFrom, typeOk, List.getD, hi, Option.getD_some, ih]
      cases allowed.contains t <;> rfl

-- non-vacuity: five entries checked against six constraint lists
example : checkTypesFrom nv_gru.constraints 0 nv_ins =
    if allOkFrom nv_gru.constraints 0 nv_ins then .ok () else .error .inputType :=
  checkTypesFrom_spec nv_gru.constraints 0 nv_ins (by decide)

theorem allOkFrom_replicate_none (cons : List (List DType)) (i k : Nat) :
    allOkFrom cons i (List.replicate k none) = true := by
  induction k generalizing i with
  | zero => simp [allOkFrom]
  | succ k ih => simp [List.replicate_succ, allOkFrom, typeOk, ih]

theorem allOkFrom_append_none (cons : List (List DType)) (i : Nat) (ins : List (Option DType)) (k : Nat) :
    allOkFrom cons i (ins ++ List.replicate k none) = allOkFrom cons i ins := by
  induction ins generalizing i with
  | nil => simp [allOkFrom, allOkFrom_replicate_none]
  | cons t rest ih => simp [allOkFrom, ih]

/-- the two branches of `checkNInputs` (fixed / variable arity) are one rule -/
theorem checkNInputs_eq (d : OpDesc) (n : Nat) :
    checkNInputs d n = if n < d.min ∨ d.max < n then .error .inputCount else .ok d.max := by
  unfold checkNInputs
  by_cases hmm : d.min = d.max
  · have : n ≠ d.max ↔ n < d.max ∨ d.max < n := by omega
    simp [hmm, this]
  · simp [hmm]

/-- **Gate theorem.** For a well-formed descriptor the gate is exactly the decision rule:
wrong count ⇒ input-count error; a disallowed element type ⇒ input-type error; otherwise the
supplied list, unchanged and in order, padded with absent entries up to the maximum. -/
theorem gate_spec (d : OpDesc) (h : WFdesc d) (ins : List (Option DType)) :
    validateInputs d ins = gateRule d ins := by
  unfold WFdesc at h
  unfold validateInputs gateRule
  rw [checkNInputs_eq]
  by_cases hn : ins.length < d.min ∨ d.max < ins.length
  · simp only [hn, if_true]
  · simp only [hn, if_false, padInputs, checkInputTypes]
    rw [checkTypesFrom_spec _ _ _ (by simp; omega), allOkFrom_append_none]
    cases allOkFrom d.constraints 0 ins <;> rfl

-- non-vacuity: the GRU descriptor is well-formed; the call is accepted and padded to six entries
example : validateInputs nv_gru nv_ins = gateRule nv_gru nv_ins :=
  gate_spec nv_gru (by decide) nv_ins
example : gateRule nv_gru nv_ins = .ok [some .f32, some .f64, some .f32, none, some .i32, none] := by decide

/-- the three outcomes of the decision rule -/
theorem gateRule_cases (d : OpDesc) (ins : List (Option DType)) :
    gateRule d ins = .error .inputCount ∨ gateRule d ins = .error .inputType ∨
      (gateRule d ins = .ok (ins ++ List.replicate (d.max - ins.length) none) ∧
        d.min ≤ ins.length ∧ ins.length ≤ d.max) := by
  unfold gateRule
  split
  · exact .inl rfl
  · split
    · exact .inr (.inr ⟨rfl, by omega, by omega⟩)
    · exact .inr (.inl rfl)

/-- every error of the gate is an input error -/
theorem gate_error_is_input_error (d : OpDesc) (h : WFdesc d) (ins : List (Option DType)) (e : Err)
    (he : validateInputs d ins = .error e) : e = .inputCount ∨ e = .inputType := by
  rw [gate_spec d h] at he
  rcases gateRule_cases d ins with hr | hr | ⟨hr, -⟩ <;> cases hr.symm.trans he
  · exact .inl rfl
  · exact .inr rfl

-- non-vacuity: two inputs where three are required; int64 where int32 is required
example : Err.inputCount = .inputCount ∨ Err.inputCount = .inputType :=
  gate_error_is_input_error nv_gru (by decide) [some .f32, some .f32] .inputCount (by decide)
example : Err.inputType = .inputCount ∨ Err.inputType = .inputType :=
  gate_error_is_input_error nv_gru (by decide) [some .f32, some .f32, some .f32, none, some .i64] .inputType (by decide)

/-- the gate of a well-formed descriptor never panics -/
theorem gate_no_panic (d : OpDesc) (h : WFdesc d) (ins : List (Option DType)) :
    validateInputs d ins ≠ .error .panic := by
  intro hp
  rcases gate_error_is_input_error d h ins .panic hp with he | he <;> cases he

-- non-vacuity
example : validateInputs nv_gru nv_ins ≠ .error .panic :=
  gate_no_panic nv_gru (by decide) nv_ins

/-- accepted ⇒ the supplied entries are passed through in order and the rest is absent -/
theorem gate_passthrough (d : OpDesc) (h : WFdesc d) (ins out : List (Option DType))
    (hok : validateInputs d ins = .ok out) :
    out = ins ++ List.replicate (d.max - ins.length) none ∧ d.min ≤ ins.length ∧ ins.length ≤ d.max := by
  rw [gate_spec d h] at hok
  rcases gateRule_cases d ins with hr | hr | ⟨hr, hb⟩ <;> cases hr.symm.trans hok
  exact ⟨rfl, hb⟩

-- non-vacuity: the accepted call
example : [some .f32, some .f64, some .f32, none, some .i32, none] = nv_ins ++ List.replicate (nv_gru.max - nv_ins.length) none ∧
    nv_gru.min ≤ nv_ins.length ∧ nv_ins.length ≤ nv_gru.max :=
  gate_passthrough nv_gru (by decide) nv_ins _ (by decide)

/-- Concat rebuilds its descriptor from the call; it is well-formed for every input count -/
theorem concat_wf (n : Nat) : WFdesc (concatDesc n) := by
  simp [WFdesc, concatDesc]

/-- **Obligation over the regenerated table:** every registered operator's descriptor is well-formed
(Concat's registered row is the not-yet-validated one; its real descriptor is `concatDesc`). -/
theorem registry_wf : ∀ d ∈ Generated.registry, d.name ≠ "Concat" → WFdesc d :=
  -- the registered Concat row (no positions, no constraints) is well-formed too; no name is compared
  fun d hd _ => (by decide : ∀ d ∈ Generated.registry, WFdesc d) d hd

/-- the reflected Concat descriptors for input counts 0…8 are the modelled ones -/
theorem concat_rows_eq : Generated.concatRows = (List.range 9).map concatDesc :=
  rfl

/-- **Obligation over the regenerated table:** the attribute state of a freshly looked-up operator (the
defaults a node without attributes runs with) is the one written down in `Spec/Defaults.lean` -/
theorem registry_defaults_pinned : Generated.defaults = Spec.defaultState :=
  -- two literals, compared as terms; `decide` would run `String.decEq` through every pair of equal strings
  rfl

/-- registered names are pairwise distinct, so `lookup` finds *the* operator of that name -/
theorem registry_names_nodup : (Generated.registry.map (·.name)).Nodup := by
  decide +kernel

/-- The registered operators other than Concat: the rows that `Spec/Arity.lean` and `Spec/Types.lean`
write down. `harness reflect` emits the rows in the byte order of their names (`sort.Strings`), and the two
tables are written in that order, so a table can be compared with the registry row by row. -/
abbrev fixedRows : List OpDesc := Generated.registry.filter (·.name ≠ "Concat")

/-- the registered names and arities are, row by row, those of `Spec.onnxArity` -/
theorem arity_rows : fixedRows.map (fun d => (d.name, d.min, d.max)) = Spec.onnxArity := by
  decide +kernel

/-- the registered names and element types are, row by row, those of `Spec.typeTable` -/
theorem type_rows : fixedRows.map (fun d => (d.name, d.constraints)) = Spec.typeTable := by
  decide +kernel

theorem fixedRows_names_nodup : (fixedRows.map (·.name)).Nodup :=
  registry_names_nodup.sublist (List.filter_sublist.map _)

/-- A table that lists, row by row, the name of every operator of `fixedRows` with some projection of
its descriptor is a function on the registered names: looking a registered name up gives that projection.
(One row-by-row comparison and `registry_names_nodup` thus stand for a `find?` per registered name.) -/
theorem lookup_of_rows {β : Type} (proj : OpDesc → β) {table : List (String × β)}
    (h : fixedRows.map (fun d => (d.name, proj d)) = table) :
    ∀ d ∈ Generated.registry, d.name ≠ "Concat" → (table.find? (·.1 = d.name)).map (·.2) = some (proj d) := by
  subst h
  intro d hd hc
  rw [Proofs.find?_key_eq_lookup, Proofs.lookup_eq_some_iff_mem (by rw [List.map_map]; exact fixedRows_names_nodup)]
  exact List.mem_map_of_mem (List.mem_filter.2 ⟨hd, by simpa using hc⟩)

/-- **Obligation over the regenerated table:** every registered operator declares exactly the ONNX
opset-13 arity (minimum = required inputs, maximum = all inputs of the schema) written down in
`Spec/Arity.lean` - so "shorter than the operator's minimum / longer than its maximum" in
`gate_registry` means shorter / longer than ONNX allows, and a required input can never reach Apply absent -/
theorem registry_arity_onnx :
    ∀ d ∈ Generated.registry, d.name ≠ "Concat" → Spec.arityOf d.name = some (d.min, d.max) :=
  lookup_of_rows (fun d => (d.min, d.max)) arity_rows

/-- **Obligation over the regenerated table:** every registered operator admits, at every input position,
exactly the element types written down in `Spec/Types.lean` -/
theorem registry_types_pinned :
    ∀ d ∈ Generated.registry, d.name ≠ "Concat" → Spec.typesOf d.name = some d.constraints :=
  lookup_of_rows (·.constraints) type_rows

/-- every operator of the table is registered -/
theorem arity_table_registered : ∀ e ∈ Spec.onnxArity, e.1 ∈ Generated.registry.map (·.name) := by
  rw [← arity_rows]
  intro e he
  obtain ⟨d, hd, rfl⟩ := List.mem_map.1 he
  exact List.mem_map_of_mem (List.mem_filter.1 hd).1

-- non-vacuity of the bounded quantifiers of the registry obligations (`registry_wf`, `registry_arity_onnx`,
-- `registry_types_pinned`, `arity_table_registered`): the tables they range over are not empty
example : 2 ≤ (Generated.registry.filter (fun d => d.name ≠ "Concat")).length ∧ 2 ≤ Spec.onnxArity.length := by decide +kernel

theorem lookup_eq_ok_iff {reg : List OpDesc} {name : String} {d : OpDesc} :
    lookup reg name = .ok d ↔ reg.find? (·.name = name) = some d := by
  unfold lookup
  cases reg.find? (·.name = name) <;> simp

/-- what `lookup` returns is registered, under the name asked for -/
theorem mem_of_lookup_ok {reg : List OpDesc} {name : String} {d : OpDesc} (h : lookup reg name = .ok d) :
    d ∈ reg ∧ d.name = name :=
  have hf := lookup_eq_ok_iff.1 h
  ⟨List.mem_of_find?_eq_some hf, by simpa using List.find?_some hf⟩

/-- any name outside the opset yields the unsupported-operator error (and nothing else) -/
theorem lookup_unknown (reg : List OpDesc) (name : String) (h : name ∉ reg.map (·.name)) :
    lookup reg name = .error .unsupportedOp ∧ ∀ ins, gate reg name ins = .error .unsupportedOp := by
  have hf : reg.find? (·.name = name) = none :=
    List.find?_eq_none.2 fun d hd hn => h (List.mem_map.2 ⟨d, hd, by simpa using hn⟩)
  simp [lookup, gate, hf]

-- non-vacuity: "Gelu" is not in the running registry
example : lookup Generated.registry "Gelu" = .error .unsupportedOp ∧ ∀ ins, gate Generated.registry "Gelu" ins = .error .unsupportedOp :=
  lookup_unknown Generated.registry "Gelu" (by decide +kernel)

/-- every name of the opset resolves, to the descriptor carrying that name -/
theorem lookup_known (reg : List OpDesc) (name : String) (h : name ∈ reg.map (·.name)) :
    ∃ d, lookup reg name = .ok d ∧ d.name = name ∧ d ∈ reg := by
  obtain ⟨d, hd, hn⟩ := List.mem_map.1 h
  have hs : (reg.find? (·.name = name)).isSome = true := List.find?_isSome.2 ⟨d, hd, by simpa using hn⟩
  obtain ⟨d', hf⟩ := Option.isSome_iff_exists.1 hs
  have hl := lookup_eq_ok_iff.2 hf
  exact ⟨d', hl, (mem_of_lookup_ok hl).2, (mem_of_lookup_ok hl).1⟩

-- non-vacuity: "GRU" is
example : ∃ d, lookup Generated.registry "GRU" = .ok d ∧ d.name = "GRU" ∧ d ∈ Generated.registry :=
  lookup_known Generated.registry "GRU" (by decide +kernel)

/-- **C15 for the running registry**: for every registered operator and every input list the gate
is the decision rule, never a panic. (PRelu adds its slope/x type equality after the generic gate.) -/
theorem gate_registry (name : String) (ins : List (Option DType))
    (hc : name ≠ "Concat") (hp : name ≠ "PRelu") (d : OpDesc) (hd : lookup Generated.registry name = .ok d) :
    gate Generated.registry name ins = gateRule d ins := by
  obtain ⟨hmem, hname⟩ := mem_of_lookup_ok hd
  simp only [gate, lookup_eq_ok_iff.1 hd, hc, hp, if_false]
  exact gate_spec d (registry_wf d hmem (hname ▸ hc)) ins

-- non-vacuity: GRU in the running registry, with the call that uses the optional inputs
example : gate Generated.registry "GRU" nv_ins = gateRule nv_gru nv_ins :=
  gate_registry "GRU" nv_ins (by decide) (by decide) nv_gru (by decide +kernel)

theorem gate_concat (ins : List (Option DType)) :
    gate Generated.registry "Concat" ins = gateRule (concatDesc ins.length) ins := by
  obtain ⟨d, hd, -⟩ := lookup_known Generated.registry "Concat" (by decide)
  simp only [gate, lookup_eq_ok_iff.1 hd, if_true]
  exact gate_spec _ (concat_wf _) ins

-- the proof does not use `hmin`, `hmax`: two present tensors at the front are all it needs
set_option linter.unusedVariables false in
/-- PRelu: a list accepted by the generic gate with both (required) tensors present is accepted
iff slope and x have the same element type; otherwise an invalid-tensor error — never a panic. -/
theorem prelu_no_panic (d : OpDesc) (h : WFdesc d) (hmin : d.min = 2) (hmax : d.max = 2)
    (x s : DType) : preluValidate d [some x, some s] ≠ .error .panic := by
  unfold preluValidate
  cases hv : validateInputs d [some x, some s] with
  | error e => exact fun he => gate_no_panic d h _ (hv.trans he)
  | ok r =>
    -- an accepted list begins with the two tensors supplied, so the slope / x comparison is reached
    obtain ⟨rfl, -⟩ := gate_passthrough d h _ r hv
    show (if x = s then _ else _) ≠ _
    split <;> nofun

-- non-vacuity: the PRelu descriptor (two required inputs), float32 x with an int32 slope
example : preluValidate { name := "PRelu", min := 2, max := 2, constraints := [[.i32, .f32], [.i32, .f32]] } [some .f32, some .i32] ≠ .error .panic :=
  prelu_no_panic _ (by decide) rfl rfl .f32 .i32

-- non-vacuity: the hypotheses are met by a real row, and the rule computes on a concrete list
example : WFdesc Generated.row3 ∧
    validateInputs Generated.row3 [some .f32, some .f32] = .ok [some .f32, some .f32] ∧
    validateInputs Generated.row3 [some .f32] = .error .inputCount ∧
    validateInputs Generated.row3 [some .f32, some .bool] = .error .inputType := by decide

end Gonnx.C15
