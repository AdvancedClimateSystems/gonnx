import Gonnx.Graph.Run
import Gonnx.Spec.Run
import Gonnx.Proofs.Run
/-
C01 — Run computes the dataflow composition of the graph, returning every output.
Model: Gonnx/Graph/Run.lean (model.go after the fix: commits). Spec: Gonnx/Spec/Run.lean.
Everything is generic in the value type `V` and in the operator semantics
`sem : node index → gathered inputs → results`: node `i` is a function of its own inputs only
(two nodes of one operator type cannot influence each other in the model; the tie of that fact to
the code is the registry-freshness probe of C15 and the same-type stream of the correspondence).
`available`, `WF`, `FirstBindingWins`, `UniqueNames` (namespace `Gonnx.C01`) and all helper lemmas live
in Gonnx/Proofs/Run.lean.
-/
namespace Gonnx.C01
open Gonnx Gonnx.Proofs.Run
variable {V : Type}

/-- The statement of `run_refines_value` as first written (verbatim, at `V := Nat`). It is FALSE:
`WF` does not say that the caller's tensors (or the initializers) bind each name once. `run` builds
its environment so that the last binding of a name wins, `Spec.value` takes the first. -/
def run_refines_value_statement : Prop :=
  ∀ (shapeOf : Nat → List Nat) (sem : Nat → List (Option Nat) → Res (List (Option Nat)))
    (g : Graph Nat) (ins : List (String × Nat)) (_hwf : WF g ins)
    (outs : List (String × Nat)) (_h : run shapeOf sem g ins = .ok outs),
    ∀ o v, (o, v) ∈ outs → Spec.value sem g ins (g.nodes.length + 1) o = .ok (some v)

/-- witness: no nodes, output `x`, the caller supplies `x` twice: `run` returns `x = 2`, the
specification says `x = 1`. (The same happens with `inits := [("w", 1), ("w", 2)]`, see below.) -/
theorem run_refines_value_counterexample : ¬ run_refines_value_statement := by
  intro hst
  have hwf : WF ({ nodes := [], decls := [], outputs := ["x"], inits := [] } : Graph Nat) [("x", 1), ("x", 2)] :=
    ⟨fun i h => absurd h (Nat.not_lt_zero i), List.nodup_nil, fun o ho => absurd ho List.not_mem_nil⟩
  have := hst (fun _ => []) (fun _ _ => .ok []) _ _ hwf [("x", 2)] (by decide) "x" 2 (by simp)
  revert this
  decide

-- the same defect through a duplicated initializer
example :
    let g : Graph Nat := { nodes := [], decls := [], outputs := ["w"], inits := [("w", 1), ("w", 2)] }
    let sem : Nat → List (Option Nat) → Res (List (Option Nat)) := fun _ _ => .ok []
    run (fun _ => []) sem g [] = .ok [("w", 2)] ∧ Spec.value sem g [] 1 "w" = .ok (some 1) := by
  decide

-- concrete instance shared by the non-vacuity examples below: a two-node graph with fan-out (node 1
-- reads `a` twice), an initializer `x` that the caller overrides, and a toy semantics (sum of the inputs)
private def nv_g : Graph Nat :=
  { nodes := [⟨["x", "w"], ["a"]⟩, ⟨["a", "a"], ["b"]⟩], decls := [], outputs := ["b", "a"], inits := [("w", 10), ("x", 5)] }
private def nv_sem : Nat → List (Option Nat) → Res (List (Option Nat)) :=
  fun _ l => .ok [some ((l.map (·.getD 0)).foldl (· + ·) 0)]
-- the same nodes with a declared 2×3 input `x` that is not an initializer
private def nv_gd : Graph Nat :=
  { nv_g with decls := [⟨"x", some [⟨false, 2⟩, ⟨false, 3⟩]⟩], inits := [("w", 10)] }

/-- **Run refines the dataflow value.** On a well-formed graph whose caller tensors and initializers
bind every name consistently (`hnames : FirstBindingWins g ins` — the one hypothesis added to the
original statement; it holds when names are unique, as in a Go map), whenever Run succeeds every
returned tensor is the demand-driven value of its name: inputs (the caller's tensor before the
initializer of the same name), initializers, or the k-th result of the node that lists the name at
output position k — whatever the names are. -/
theorem run_refines_value_partial (shapeOf : V → List Nat) (sem : Nat → List (Option V) → Res (List (Option V)))
    (g : Graph V) (ins : List (String × V)) (hwf : WF g ins) (hnames : FirstBindingWins g ins)
    (outs : List (String × V)) (h : run shapeOf sem g ins = .ok outs) :
    ∀ o v, (o, v) ∈ outs → Spec.value sem g ins (g.nodes.length + 1) o = .ok (some v) := by
  intro o v hov
  obtain ⟨env, henv, hc⟩ := run_ok h
  exact runNodes_refines sem g ins hwf.ssa hwf.fresh hnames env henv o (some v)
    ((collect_ok env g.outputs outs hc).2 (o, v) hov)

-- non-vacuity: the theorem applied to the two-node graph; every hypothesis is discharged
example : ∀ o v, (o, v) ∈ [("b", 22), ("a", 11)] → Spec.value nv_sem nv_g [("x", 1)] (nv_g.nodes.length + 1) o = .ok (some v) :=
  run_refines_value_partial (fun _ => []) nv_sem nv_g [("x", 1)] ⟨by decide, by decide, by decide⟩
    (FirstBindingWins.of_unique ⟨by decide, by decide⟩) [("b", 22), ("a", 11)] (by decide)

/-- the same with the plainer hypothesis: no name twice among the caller's tensors, none twice among
the initializers (a name may still be both a caller tensor and an initializer) -/
theorem run_refines_value_of_unique (shapeOf : V → List Nat) (sem : Nat → List (Option V) → Res (List (Option V)))
    (g : Graph V) (ins : List (String × V)) (hwf : WF g ins) (huniq : UniqueNames g ins)
    (outs : List (String × V)) (h : run shapeOf sem g ins = .ok outs) :
    ∀ o v, (o, v) ∈ outs → Spec.value sem g ins (g.nodes.length + 1) o = .ok (some v) :=
  run_refines_value_partial shapeOf sem g ins hwf (FirstBindingWins.of_unique huniq) outs h

-- non-vacuity
example : ∀ o v, (o, v) ∈ [("b", 22), ("a", 11)] → Spec.value nv_sem nv_g [("x", 1)] (nv_g.nodes.length + 1) o = .ok (some v) :=
  run_refines_value_of_unique (fun _ => []) nv_sem nv_g [("x", 1)] ⟨by decide, by decide, by decide⟩
    ⟨by decide, by decide⟩ [("b", 22), ("a", 11)] (by decide)

/-- more fuel never changes a value: the fuel `g.nodes.length + 1` above is a lower bound -/
theorem value_fuel_mono (sem : Nat → List (Option V) → Res (List (Option V))) (g : Graph V)
    (ins : List (String × V)) (f f' : Nat) (hle : f ≤ f') (name : String) (w : Option V)
    (h : Spec.value sem g ins f name = .ok w) : Spec.value sem g ins f' name = .ok w := by
  induction hle with
  | refl => exact h
  | step _ ih => exact value_mono_succ sem g ins _ name w ih

-- non-vacuity: fuel 3 suffices for `b` in the two-node graph, so does fuel 7
example : Spec.value nv_sem nv_g [("x", 1)] 7 "b" = .ok (some 22) :=
  value_fuel_mono nv_sem nv_g [("x", 1)] 3 7 (by decide) "b" (some 22) (by decide)

/-- **Every declared output is present** (and non-nil: the result carries values, not options), in
the declared order — or Run reports an error. -/
theorem run_outputs_total (shapeOf : V → List Nat) (sem : Nat → List (Option V) → Res (List (Option V)))
    (g : Graph V) (ins : List (String × V)) (outs : List (String × V))
    (h : run shapeOf sem g ins = .ok outs) : outs.map (·.1) = g.outputs := by
  obtain ⟨env, _, hc⟩ := run_ok h
  exact (collect_ok env g.outputs outs hc).1

-- non-vacuity: a successful Run of the two-node graph
example : ([("b", 22), ("a", 11)] : List (String × Nat)).map (·.1) = nv_g.outputs :=
  run_outputs_total (fun _ => []) nv_sem nv_g [("x", 1)] _ (by decide)

/-- a declared output that nothing provides makes Run fail -/
theorem run_missing_output (shapeOf : V → List Nat) (sem : Nat → List (Option V) → Res (List (Option V)))
    (g : Graph V) (ins : List (String × V)) (o : String) (ho : o ∈ g.outputs)
    (hno : o ∉ available g ins g.nodes.length) : ∃ e, run shapeOf sem g ins = .error e := by
  cases hr : run shapeOf sem g ins with
  | error e => exact ⟨e, rfl⟩
  | ok outs =>
    obtain ⟨env, henv, hc⟩ := run_ok hr
    simp only [available, List.take_length, List.mem_append, not_or] at hno
    have h0 : (env0 g.inits ins).find o = none := by
      rw [env0_find,
        Proofs.lookup_eq_none_of_not_mem _ _ (by rw [List.map_reverse, List.mem_reverse]; exact hno.1.1),
        Proofs.lookup_eq_none_of_not_mem _ _ (by rw [List.map_reverse, List.mem_reverse]; exact hno.1.2)]
      rfl
    obtain ⟨hnames, hbound⟩ := collect_ok env g.outputs outs hc
    rw [← hnames] at ho
    obtain ⟨p, hp, rfl⟩ := List.mem_map.1 ho
    have hf := hbound p hp
    rw [runNodes_find_none p.1 g.nodes _ env henv h0 hno.2] at hf
    cases hf

-- non-vacuity: the two-node graph with a declared output `c` that no node, input or initializer provides
example : ∃ e, run (fun _ => []) nv_sem { nv_g with outputs := ["b", "c"] } [("x", 1)] = .error e :=
  run_missing_output (fun _ => []) nv_sem { nv_g with outputs := ["b", "c"] } [("x", 1)] "c" (by decide) (by decide)

/-- **Validation comes first** (C13): when the supplied tensors do not satisfy the signature Run fails
with that error whatever the operators are — no operator is applied, so no tensor is touched. -/
theorem run_validates_first (shapeOf : V → List Nat) (sem sem' : Nat → List (Option V) → Res (List (Option V)))
    (g : Graph V) (ins : List (String × V)) (e : Err)
    (hv : validateShapes g.decls (g.inits.map (·.1)) (ins.map fun (n, v) => (n, shapeOf v)) = .error e) :
    run shapeOf sem g ins = .error e ∧ run shapeOf sem' g ins = .error e :=
  ⟨by rw [run_eq, hv]; rfl, by rw [run_eq, hv]; rfl⟩

-- non-vacuity: `x` is declared 2×3 and a rank-1 tensor is supplied
example :
    run (fun _ => [2]) nv_sem nv_gd [("x", 1)] = .error .model ∧
    run (fun _ => [2]) (fun _ _ => .error .panic) nv_gd [("x", 1)] = .error .model :=
  run_validates_first (fun _ => [2]) nv_sem (fun _ _ => .error .panic) nv_gd [("x", 1)] .model (by decide)

/-- **A failing node fails the Run** with that node's error (C18: an operator type outside the opset
yields the unsupported-operator error — the node is neither skipped nor substituted): if the nodes
before it succeed and the node itself fails with `e`, the whole node loop fails with `e`. -/
theorem run_node_error (sem : Nat → List (Option V) → Res (List (Option V)))
    (pre rest : List GNode) (n : GNode) (start : Nat) (env env1 : Env V) (insn : List (Option V)) (e : Err)
    (hpre : runNodes sem start pre env = .ok env1)
    (hg : gatherInputs env1 n.ins = .ok insn)
    (hfail : sem (start + pre.length) insn = .error e) :
    runNodes sem start (pre ++ n :: rest) env = .error e :=
  by
  rw [runNodes_append, hpre, Proofs.ok_bind, runNodes_cons, stepNode, hg, Proofs.ok_bind, hfail]
  rfl

-- non-vacuity: three nodes, the middle one (index 1) is of an unsupported type
example :
    runNodes (fun i l => if i = 1 then .error .unsupportedOp else nv_sem i l) 0
      ([⟨["x", "w"], ["a"]⟩] ++ (⟨["a", "a"], ["b"]⟩ : GNode) :: [⟨["b"], ["c"]⟩])
      [("x", some 1), ("w", some 10)] = .error .unsupportedOp :=
  run_node_error (fun i l => if i = 1 then .error .unsupportedOp else nv_sem i l)
    [⟨["x", "w"], ["a"]⟩] [⟨["b"], ["c"]⟩] ⟨["a", "a"], ["b"]⟩ 0
    [("x", some 1), ("w", some 10)] [("a", some 11), ("x", some 1), ("w", some 10)] [some 11, some 11] .unsupportedOp
    (by decide) (by decide) (by decide)

/-- results are bound to the output names by position: the environment after a node maps its k-th
output name to the k-th result -/
theorem bind_positional (env : Env V) (names : List String) (outs : List (Option V)) (env' : Env V)
    (hn : names.Nodup) (h : bindOutputs env names outs = .ok env') (k : Nat) (hk : k < names.length) :
    env'.find (names[k]) = some (outs.getD k none) :=
  bind_find_mem env names outs env' hn h k hk

-- non-vacuity: two output names, the second result absent
example : Env.find ([("q", none), ("p", some 7), ("x", some 1)] : Env Nat) (["p", "q"][1]) = some ([some 7, none].getD 1 none) :=
  bind_positional [("x", some 1)] ["p", "q"] [some 7, none] _ (by decide) (by decide) 1 (by decide)

/-- an empty input name is 'optional input absent', and gathering does not depend on later bindings -/
theorem gather_empty (env : Env V) (rest : List String) :
    gatherInputs env ("" :: rest) = (gatherInputs env rest).map (none :: ·) := by
  simp [gatherInputs]

-- non-vacuity: a two-node graph with fan-out, evaluated with a toy semantics
example :
    let g : Graph Nat := { nodes := [⟨["x", "w"], ["a"]⟩, ⟨["a", "a"], ["b"]⟩], decls := [], outputs := ["b", "a"], inits := [("w", 10)] }
    let sem : Nat → List (Option Nat) → Res (List (Option Nat)) := fun _ l => .ok [some ((l.map (·.getD 0)).foldl (· + ·) 0)]
    run (fun _ => []) sem g [("x", 1)] = .ok [("b", 22), ("a", 11)] ∧ Spec.value sem g [("x", 1)] 3 "b" = .ok (some 22) := by
  decide

-- non-vacuity of `run_refines_value_partial`: its premises hold together on that graph
example :
    let g : Graph Nat := { nodes := [⟨["x", "w"], ["a"]⟩, ⟨["a", "a"], ["b"]⟩], decls := [], outputs := ["b", "a"], inits := [("w", 10), ("x", 5)] }
    let sem : Nat → List (Option Nat) → Res (List (Option Nat)) := fun _ l => .ok [some ((l.map (·.getD 0)).foldl (· + ·) 0)]
    WF g [("x", 1)] ∧ UniqueNames g [("x", 1)] ∧ FirstBindingWins g [("x", 1)] ∧
      run (fun _ => []) sem g [("x", 1)] = .ok [("b", 22), ("a", 11)] := by
  intro g sem
  have hu : UniqueNames g [("x", 1)] := ⟨by decide, by decide⟩
  exact ⟨⟨by decide, by decide, by decide⟩, hu, FirstBindingWins.of_unique hu, by decide⟩

end Gonnx.C01
