import Gonnx.Ops.Reduce
import Gonnx.Spec.Reduce
import Gonnx.Proofs.Binary
import Gonnx.Proofs.Reduce
/-
C09 — ArgMax, ReduceMax/Min, Softmax, LogSoftmax act on exactly the requested axes.
Model: Gonnx/Ops/Reduce.lean. Spec: Gonnx/Spec/Reduce.lean.
The order on elements is a parameter: `le` total and transitive (NaN-free data), `lt a b = !le b a`.
-/
namespace Gonnx.C09
open Gonnx
variable {α : Type} [Inhabited α]

abbrev Pos := Proofs.Pos
abbrev Equiv {β : Type} [Inhabited β] := @Proofs.Equiv β _

-- `TotalLe le` (a total preorder given by a Boolean `le`) is defined in Gonnx/Proofs/Reduce.lean,
-- in namespace `Gonnx.C09`.

-- concrete instance shared by the non-vacuity examples below: `≤` on `Int` (`TotalLe` by
-- `Proofs.Reduce.totalLe_int`, antisymmetric by `Proofs.Reduce.antisymm_int`), tensors with ties
private def nv_le : Int → Int → Bool := fun a b => decide (a ≤ b)
private def nv_t : Tensor Int := ⟨[2, 3], [1, 5, 5, 7, 2, 7]⟩
private def nv_u : Tensor Int := ⟨[2, 3, 2], [1, 5, 5, 7, 2, 7, -3, 0, 9, 4, 4, 8]⟩
private def nv_lane : Int → List Int → List Int := fun anchor lane => lane.map (· - anchor)

-- the proof does not use `hW`: model and spec read `t` through the total `Tensor.get`
set_option linter.unusedVariables false in
/-- **ArgMax** (partial): for every valid axis spelling and keepdims, except the rank-1/keepdims=0 corner,
the operator returns the int64 tensor of first-occurrence indices of the maximum along exactly that
axis, the axis kept with extent 1 iff keepdims. -/
theorem argmax_partial (le : α → α → Bool) (hle : TotalLe le) (t : Tensor α) (axis : Int) (keep : Bool)
    (hW : t.WF) (hpos : Pos t.shape) (ax : Nat) (hax : Spec.normAxis t.shape.length axis = some ax)
    (hcorner : ¬ (keep = false ∧ t.shape.length = 1))
    (s : Tensor Int) (hs : Spec.argmax le t axis keep = some s) :
    ∃ m mu, argmaxOp (fun a b => !le b a) t axis keep = .ok (m, mu) ∧ Equiv m s :=
  Proofs.Reduce.argmax_partial le hle t axis keep hpos ax hax hcorner s hs

-- non-vacuity: 2×3, axis -1, no keepdims (ties: first occurrence) …
example : ∃ m mu, argmaxOp (fun a b => !nv_le b a) nv_t (-1) false = .ok (m, mu) ∧ Equiv m ⟨[2], [1, 0]⟩ :=
  argmax_partial nv_le Proofs.Reduce.totalLe_int nv_t (-1) false rfl (by decide) 1 (by decide) (by decide) _ (by decide)
-- … and 2×3×2, axis -2, keepdims
example : ∃ m mu, argmaxOp (fun a b => !nv_le b a) nv_u (-2) true = .ok (m, mu) ∧ Equiv m ⟨[2, 1, 2], [1, 1, 1, 2]⟩ :=
  argmax_partial nv_le Proofs.Reduce.totalLe_int nv_u (-2) true rfl (by decide) 1 (by decide) (by decide) _ (by decide)

-- the proof does not use `hn`: the error comes from the rank alone
set_option linter.unusedVariables false in
/-- the rank-1 / keepdims=0 corner is refused with an error although ONNX defines a scalar (known finding) -/
theorem argmax_rank1_nokeep (lt : α → α → Bool) (t : Tensor α) (n : Nat) (h : t.shape = [n]) (hn : 0 < n) :
    argmaxOp lt t 0 false = .error .other :=
  Proofs.Reduce.argmax_rank1_nokeep lt t n h

-- non-vacuity: a vector of 3
example : argmaxOp (fun a b : Int => decide (a < b)) ⟨[3], [1, 5, 2]⟩ 0 false = .error .other :=
  argmax_rank1_nokeep _ ⟨[3], [1, 5, 2]⟩ 3 rfl (by decide)

/-- effect: ArgMax never writes to its input, with or without keepdims (since the `fix:` commit that
clones the shape; before it, keepdims overwrote the input's own shape — fixed finding, see C02) -/
theorem argmax_pure (lt : α → α → Bool) (t : Tensor α) (axis : Int) (keep : Bool) (m : Tensor Int) (mu : Option (List Nat))
    (h : argmaxOp lt t axis keep = .ok (m, mu)) : mu = none := by
  unfold argmaxOp at h
  simp only at h
  split at h
  · cases h
  · cases keep with
    | true => simp only [if_true] at h; cases h; rfl
    | false =>
      simp only [Bool.false_eq_true, if_false] at h
      split at h
      · cases h
      · cases h; rfl

-- non-vacuity: the hypothesis `h` holds for the 2×3×2 tensor, axis -2, keepdims
example : (none : Option (List Nat)) = none :=
  argmax_pure (fun a b => !nv_le b a) nv_u (-2) true ⟨[2, 1, 2], [1, 1, 1, 2]⟩ none (by decide)

/-- without keepdims nothing is written to the input -/
theorem argmax_nokeep_pure (lt : α → α → Bool) (t : Tensor α) (axis : Int) (m : Tensor Int) (mu : Option (List Nat))
    (h : argmaxOp lt t axis false = .ok (m, mu)) : mu = none :=
  argmax_pure lt t axis false m mu h

-- non-vacuity: the hypothesis `h` holds for the 2×3×2 tensor, axis 0
example : (none : Option (List Nat)) = none :=
  argmax_nokeep_pure (fun a b => !nv_le b a) nv_u 0 ⟨[3, 2], [0, 0, 1, 0, 1, 1]⟩ none (by decide)

/-- The **ReduceMax / ReduceMin** statement with `le` only a total preorder (neither `hantisymm` nor
`hinner` of `reduce_partial'`), at the element type `Nat × Nat` so that it is a closed proposition.
It is FALSE: `reduce_partial_counterexample` shows that a total preorder is not enough. -/
def reduce_partial_statement : Prop :=
  ∀ (le : Nat × Nat → Nat × Nat → Bool) (_hle : TotalLe le) (t : Tensor (Nat × Nat)) (axes : List Int) (keep : Bool)
    (_hW : t.WF) (_hpos : Pos t.shape)
    (nax : List Nat) (_hax : axes.mapM (Spec.normAxis t.shape.length) = some nax) (_hnd : nax.Nodup)
    (_hguard : ¬ (axes = [] ∧ keep = true ∧ prod t.shape ≠ 1))
    (s : Tensor (Nat × Nat)) (_hs : Spec.reduce (fun a b => if le a b then b else a) t axes keep = some s),
    ∃ m, reduceOp (fun a b => !le a b) t axes keep = .ok m ∧ Equiv m s

/-- counterexample: pairs compared on the first component only, `t = [(1,0), (1,1)]`, axis 0: the model
keeps the first maximum `(1,0)` (in its own enumeration order) while the spec's left fold with `pick`
keeps the last one `(1,1)`; a total preorder does not make tied maxima equal. -/
theorem reduce_partial_counterexample : ¬ reduce_partial_statement := by
  intro h
  obtain ⟨m, hm, _, _, _, hget⟩ := h Proofs.Reduce.leFst Proofs.Reduce.leFst_total Proofs.Reduce.tiePair [0] false
    Proofs.Reduce.tiePair_WF Proofs.Reduce.tiePair_pos [0] (by decide) (by decide) (by decide) _
    Proofs.Reduce.tiePair_spec
  rw [Proofs.Reduce.tiePair_model] at hm
  cases hm
  exact absurd (hget [] trivial) (by decide)

-- the proof does not use `hW`, `hpos`: elements are read through the total `Tensor.get`, and an empty
-- set of sources gives `default` in the model and in the spec
set_option linter.unusedVariables false in
/-- **ReduceMax / ReduceMin** (partial): exactly the requested axes (positive or negative spelling, any
order, pairwise distinct) are reduced, each kept with extent 1 iff keepdims; `better a b` says "a
replaces b", `pick` is the corresponding binary max/min. The guard excludes "no axes with keepdims".
Two hypotheses beyond `reduce_partial_statement`: `hantisymm` (`le` is a linear order, so that tied
maxima are equal and the enumeration order does not matter) and `hinner` (the model's guard for
gorgonia's defective inner-axis reduction does not fire: `innerAxesOnly rank nax` — rank ≥ 4, every
listed axis ≥ 2 and at least one of them not the last axis, i.e. the smallest listed axis is an inner
one — is false; see `reduce_rank4_inner_unmodelled`).
`hinner` is phrased over the normalised listed axes `nax`: when no axes are given (`nax = []`) it holds
vacuously, and rightly so, since the model then reduces all axes `0, 1, …` starting with axis 0, for
which the guard is false. -/
theorem reduce_partial' (le : α → α → Bool) (hle : TotalLe le)
    (hantisymm : ∀ a b, le a b = true → le b a = true → a = b)
    (t : Tensor α) (axes : List Int) (keep : Bool)
    (hW : t.WF) (hpos : Pos t.shape)
    (nax : List Nat) (hax : axes.mapM (Spec.normAxis t.shape.length) = some nax) (hnd : nax.Nodup)
    (hguard : ¬ (axes = [] ∧ keep = true ∧ prod t.shape ≠ 1))
    (hinner : innerAxesOnly t.shape.length nax = false)
    (s : Tensor α) (hs : Spec.reduce (fun a b => if le a b then b else a) t axes keep = some s) :
    ∃ m, reduceOp (fun a b => !le a b) t axes keep = .ok m ∧ Equiv m s :=
  Proofs.Reduce.reduce_partial' le hle hantisymm t axes keep nax hax hnd hguard hinner s hs

-- non-vacuity: ReduceMax of a 2×3×2 tensor over the axes [-1, 0] (negative spelling, unsorted), keepdims …
example : ∃ m, reduceOp (fun a b => !nv_le a b) nv_u [-1, 0] true = .ok m ∧ Equiv m ⟨[1, 3, 1], [5, 9, 8]⟩ :=
  reduce_partial' nv_le Proofs.Reduce.totalLe_int Proofs.Reduce.antisymm_int nv_u [-1, 0] true rfl (by decide)
    [2, 0] (by decide) (by decide) (by decide) (by decide) _ (by decide +kernel)
-- … and of a rank-4 tensor over its last axis (`hinner` is not trivially true there: rank ≥ 4, axis ≥ 2)
example : ∃ m, reduceOp (fun a b => !nv_le a b) (⟨[1, 2, 3, 2], nv_u.data⟩ : Tensor Int) [3] false = .ok m ∧ Equiv m ⟨[1, 2, 3], [5, 7, 7, 0, 9, 8]⟩ :=
  reduce_partial' nv_le Proofs.Reduce.totalLe_int Proofs.Reduce.antisymm_int ⟨[1, 2, 3, 2], nv_u.data⟩ [3] false rfl (by decide)
    [3] (by decide) (by decide) (by decide) (by decide) _ (by decide +kernel)

/-- The guard of the model, documented: reducing an inner axis (neither one of the first two nor the
last) of a tensor of rank ≥ 4 FIRST is not modelled; instance rank 4, `axes = [2]`, any `keepdims`.
This is the known finding `reduce.rank4_inner_axis_first` of the real code: gorgonia's Max/Min on an
inner axis of a rank-4 tensor returns values of another lane or panics, so no claim about the result
is made for such inputs (they are excluded from `reduce_partial'` by `hinner`). -/
theorem reduce_rank4_inner_unmodelled (better : α → α → Bool) (t : Tensor α) (keep : Bool)
    (h : t.shape.length = 4) : reduceOp better t [2] keep = .error .unmodelled := by
  have hg : gReduce better t [2] = .error .unmodelled := by
    unfold gReduce
    rw [h]
    rfl
  have hax : ([2] : List Int).map (fun a => if a < 0 then ((t.shape.length : Nat) : Int) + a else a) = [2] := by
    simp
  unfold reduceOp
  simp only [hax, hg]

-- non-vacuity: a 1×2×3×2 tensor
example : reduceOp (fun a b => !nv_le a b) (⟨[1, 2, 3, 2], nv_u.data⟩ : Tensor Int) [2] true = .error .unmodelled :=
  reduce_rank4_inner_unmodelled _ ⟨[1, 2, 3, 2], nv_u.data⟩ true rfl

/-- "all axes when none are given" with keepdims is an error unless the input has one element (known finding) -/
theorem reduce_no_axes_keepdims (better : α → α → Bool) (t : Tensor α) (h : prod t.shape ≠ 1) :
    reduceOp better t [] true = .error .shape :=
  Proofs.Reduce.reduce_no_axes_keepdims better t h

-- non-vacuity: 12 elements
example : reduceOp (fun a b => !nv_le a b) nv_u [] true = .error .shape :=
  reduce_no_axes_keepdims _ nv_u (by decide)

/-- **Softmax / LogSoftmax** normalise along the requested axis only: the output has the input's shape
and the element at `idx` is entry `idx[axis]` of the lane function applied to the lane through `idx`
(the elements that differ from `idx` only at `axis`) — plus, on the last axis, gorgonia's anchor. -/
theorem softmax_lane (f : α → List α → List α) (t : Tensor α) (axis : Int) (ax : Nat)
    (hax : Spec.normAxis t.shape.length axis = some ax) :
    ∃ out, softmaxOp f t axis = .ok out ∧ out.shape = t.shape ∧ out.WF ∧
      ∀ idx, InRange idx t.shape →
        out.get idx =
          (f (if ax + 1 = t.shape.length then t.data.headD default
              else t.get (idx.set ax 0))
             ((List.range (dim t.shape ax)).map fun k => t.get (idx.set ax k))).getD (idx.getD ax 0) default :=
  Proofs.Reduce.softmax_lane f t axis ax hax

-- non-vacuity: a 2×3 tensor, axis -2 (an inner axis: the anchor is the lane's first element), lane function "subtract the anchor"
example : ∃ out, softmaxOp nv_lane nv_t (-2) = .ok out ∧ out.shape = nv_t.shape ∧ out.WF ∧
      ∀ idx, InRange idx nv_t.shape →
        out.get idx =
          (nv_lane (if 0 + 1 = nv_t.shape.length then nv_t.data.headD default else nv_t.get (idx.set 0 0))
             ((List.range (dim nv_t.shape 0)).map fun k => nv_t.get (idx.set 0 k))).getD (idx.getD 0 0) default :=
  softmax_lane nv_lane nv_t (-2) 0 (by decide)

/-- an axis outside [-rank, rank) is refused with the axis error -/
theorem softmax_axis_error (f : α → List α → List α) (t : Tensor α) (axis : Int)
    (h : Spec.normAxis t.shape.length axis = none) : softmaxOp f t axis = .error .axis :=
  Proofs.Reduce.softmax_axis_error f t axis h

-- non-vacuity: axis 2 for a rank-2 tensor
example : softmaxOp nv_lane nv_t 2 = .error .axis :=
  softmax_axis_error nv_lane nv_t 2 (by decide)

-- non-vacuity
example : TotalLe (fun a b : Int => decide (a ≤ b)) ∧
    (∀ a b : Int, decide (a ≤ b) = true → decide (b ≤ a) = true → a = b) :=
  ⟨Proofs.Reduce.totalLe_int, Proofs.Reduce.antisymm_int⟩
example : (Spec.argmax (fun (a b : Int) => decide (a ≤ b)) ⟨[2, 3], [1, 5, 5, 7, 2, 7]⟩ (-1) false).map (·.data) = some [1, 0] ∧
    (Spec.reduce (fun (a b : Int) => if a ≤ b then b else a) ⟨[2, 3], [1, 5, 5, 7, 2, 7]⟩ [0] true) = some ⟨[1, 3], [7, 5, 7]⟩ := by decide +kernel

end Gonnx.C09
