import Gonnx.Ops.IntWrap
/-
C11 (Cast to a float type). `Gonnx.roundSig p v` (in `Ops/IntWrap.lean`, run by the driver as
`Gonnx.convTo`) is the value of converting the exact integer `v` to a binary float with a `p`-bit
significand - 24 for float32, 53 for float64 - as Go / IEEE-754 do it: round to nearest, ties to even.
For every 64-bit integer that value is again an integer and far below the overflow threshold, so the
Cast model stays in exact integers. Proved here: exact when representable, sign symmetry, nearest
(error at most half a unit in the last place), the result is a multiple of that unit, ties go to even.
-/
namespace Gonnx

/-- bit length -/
private def bitLen (a : Nat) : Nat := if a = 0 then 0 else Nat.log2 a + 1

/-- rounded quotient -/
private def rq (a s : Nat) : Nat :=
  if a % 2 ^ s > 2 ^ (s - 1) ∨ (a % 2 ^ s = 2 ^ (s - 1) ∧ a / 2 ^ s % 2 = 1) then a / 2 ^ s + 1 else a / 2 ^ s

private theorem roundSig_unfold (p : Nat) (v : Int) :
    roundSig p v = if bitLen v.natAbs ≤ p then v else
      if v < 0 then -((rq v.natAbs (bitLen v.natAbs - p) * 2 ^ (bitLen v.natAbs - p) : Nat) : Int)
      else ((rq v.natAbs (bitLen v.natAbs - p) * 2 ^ (bitLen v.natAbs - p) : Nat) : Int) := rfl

private theorem dropBits_unfold (p : Nat) (v : Int) : dropBits p v = bitLen v.natAbs - p := rfl

private theorem bitLen_le_iff (a p : Nat) : bitLen a ≤ p ↔ a < 2 ^ p := by
  unfold bitLen
  by_cases h : a = 0
  · subst h; simp [Nat.two_pow_pos]
  · simp only [h, if_false]
    exact (Nat.log2_lt h)

/-- nothing is dropped: the quotient is the number -/
private theorem rq_zero (a : Nat) : rq a 0 = a := by
  unfold rq
  simp only [Nat.zero_sub, Nat.pow_zero, Nat.mod_one, Nat.div_one]
  rw [if_neg (by omega)]

/-- the rounded multiple of `2 ^ s` is within half a unit of `a` -/
private theorem rq_near (a s : Nat) :
    2 * (rq a s * 2 ^ s) ≤ 2 * a + 2 ^ s ∧ 2 * a ≤ 2 * (rq a s * 2 ^ s) + 2 ^ s := by
  rcases Nat.eq_zero_or_pos s with rfl | hs
  · simp [rq_zero]
  have hP := Nat.two_pow_pred_add_two_pow_pred hs
  have ha := Nat.div_add_mod a (2 ^ s)
  have hr := Nat.mod_lt a (Nat.two_pow_pos s)
  rw [Nat.mul_comm] at ha
  unfold rq
  split
  · rw [Nat.add_mul]
    omega
  · omega

/-- exactly half-way between two multiples, the even quotient is taken -/
private theorem rq_tie (a s : Nat) (ht : a % 2 ^ s = 2 ^ (s - 1)) : rq a s % 2 = 0 := by
  unfold rq
  split <;> omega

/-- **Sign-magnitude form**, whatever the size of `v`: the magnitude is rounded to a multiple of the unit
`2 ^ dropBits p v` (which is 1 when `v` fits) and the sign is put back. The five theorems below read their
claim off this form and the lemmas about `rq`. -/
private theorem roundSig_eq (p : Nat) (v : Int) :
    roundSig p v =
      if v < 0 then -((rq v.natAbs (dropBits p v) * 2 ^ dropBits p v : Nat) : Int)
      else ((rq v.natAbs (dropBits p v) * 2 ^ dropBits p v : Nat) : Int) := by
  rw [roundSig_unfold, dropBits_unfold]
  by_cases hb : bitLen v.natAbs ≤ p
  · have h0 : bitLen v.natAbs - p = 0 := by omega
    rw [if_pos hb, h0, rq_zero, Nat.pow_zero, Nat.mul_one]
    split <;> omega
  · rw [if_neg hb]

/-- **exact when representable**: an integer of at most `p` bits is kept -/
theorem roundSig_small (p : Nat) (v : Int) (h : v.natAbs < 2 ^ p) : roundSig p v = v := by
  rw [roundSig_unfold, if_pos ((bitLen_le_iff _ _).2 h)]

/-- conversion commutes with negation (sign-magnitude rounding) -/
theorem roundSig_neg (p : Nat) (v : Int) : roundSig p (-v) = -roundSig p v := by
  by_cases h0 : v = 0
  · subst h0
    rw [Int.neg_zero, roundSig_small p 0 (Nat.two_pow_pos p), Int.neg_zero]
  · have hd : dropBits p (-v) = dropBits p v := by rw [dropBits_unfold, dropBits_unfold, Int.natAbs_neg]
    rw [roundSig_eq, roundSig_eq, hd, Int.natAbs_neg]
    split <;> split <;> omega

/-- **nearest**: the result differs from `v` by at most half a unit in the last place … -/
theorem roundSig_error (p : Nat) (v : Int) : (roundSig p v - v).natAbs * 2 ≤ 2 ^ dropBits p v := by
  have := rq_near v.natAbs (dropBits p v)
  rw [roundSig_eq]
  split <;> omega

/-- … and is a multiple of that unit (so it has at most `p` significant bits, or is the next power of two) -/
theorem roundSig_dvd (p : Nat) (v : Int) : ((2 : Int) ^ dropBits p v) ∣ roundSig p v := by
  have hd : ((2 : Int) ^ dropBits p v) ∣ ((rq v.natAbs (dropBits p v) * 2 ^ dropBits p v : Nat) : Int) := by
    rw [Int.natCast_mul, Int.natCast_pow]
    exact Int.dvd_mul_left _ _
  rw [roundSig_eq]
  split
  · exact Int.dvd_neg.2 hd
  · exact hd

-- the proof does not use `hd`: `ht` alone forces `0 < dropBits p v`
set_option linter.unusedVariables false in
/-- **ties to even**: exactly half-way between two multiples of the unit, the even multiple is taken -/
theorem roundSig_tie_even (p : Nat) (v : Int) (hd : 0 < dropBits p v)
    (ht : v.natAbs % 2 ^ dropBits p v = 2 ^ (dropBits p v - 1)) :
    (roundSig p v / (2 : Int) ^ dropBits p v) % 2 = 0 := by
  have he := rq_tie v.natAbs (dropBits p v) ht
  have hpos : (2 : Int) ^ dropBits p v ≠ 0 := Int.pow_ne_zero (by decide)
  rw [roundSig_eq]
  simp only [Int.natCast_mul, Int.natCast_pow, Int.cast_ofNat_Int]
  split
  · rw [← Int.neg_mul, Int.mul_ediv_cancel _ hpos]
    omega
  · rw [Int.mul_ediv_cancel _ hpos]
    omega

-- sanity (these must keep evaluating to true)
example : roundSig 24 16777217 = 16777216 := by decide
example : roundSig 24 16777219 = 16777220 := by decide
example : roundSig 24 (-16777219) = -16777220 := by decide
example : roundSig 53 (2 ^ 53 + 1) = 2 ^ 53 := by decide
example : roundSig 24 (2 ^ 63 - 1) = 2 ^ 63 := by decide
example : roundSig 24 5 = 5 := roundSig_small 24 5 (by decide)

end Gonnx
