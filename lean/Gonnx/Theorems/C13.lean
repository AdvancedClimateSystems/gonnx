import Gonnx.Graph.Validate
/-
C13 — Run accepts exactly the input sets that satisfy the declared signature.
-/
namespace Gonnx.C13
open Gonnx

/-- a supplied shape satisfies a declaration: same rank, every fixed dimension equal -/
def Satisfies (decl : List DimDecl) (shape : List Nat) : Prop :=
  shape.length = decl.length ∧
  ∀ i (h : i < decl.length) (h' : i < shape.length), decl[i].isDynamic = false → decl[i].size = (shape[i] : Int)

/-- the loop walks both lists in step; so does `Satisfies`: its position 0 is the two heads, its position
`i + 1` position `i` of the tails -/
theorem dimsMatch_iff_satisfies (decl : List DimDecl) (shape : List Nat) :
    dimsMatch decl shape = true ↔ Satisfies decl shape := by
  induction decl generalizing shape with
  | nil => cases shape <;> simp [dimsMatch, Satisfies]
  | cons d ds ih =>
    cases shape with
    | nil => simp [dimsMatch, Satisfies]
    | cons n ns =>
      have head : (d.isDynamic || d.size == (n : Int)) = true ↔ (d.isDynamic = false → d.size = n) := by
        cases d.isDynamic <;> simp
      simp only [dimsMatch, Bool.and_eq_true, head, ih ns, Satisfies, List.length_cons, Nat.add_right_cancel_iff,
        Nat.forall_lt_succ_left', List.getElem_cons_zero, List.getElem_cons_succ, Nat.add_lt_add_iff_right,
        Nat.zero_lt_succ, forall_const]
      exact and_left_comm

theorem dimsMatch_iff (decl : List DimDecl) (shape : List Nat) (hl : shape.length = decl.length) :
    dimsMatch decl shape = true ↔
      ∀ i (h : i < decl.length) (h' : i < shape.length), decl[i].isDynamic = false → decl[i].size = (shape[i] : Int) :=
  (dimsMatch_iff_satisfies decl shape).trans (and_iff_right hl)

-- non-vacuity: a declaration (2, dynamic) against the shape 2×7
example : dimsMatch [DimDecl.ofValue 2, DimDecl.ofValue 0] [2, 7] = true ↔
      ∀ i (h : i < [DimDecl.ofValue 2, DimDecl.ofValue 0].length) (h' : i < [2, 7].length),
        [DimDecl.ofValue 2, DimDecl.ofValue 0][i].isDynamic = false → [DimDecl.ofValue 2, DimDecl.ofValue 0][i].size = (([2, 7][i] : Nat) : Int) :=
  dimsMatch_iff [DimDecl.ofValue 2, DimDecl.ofValue 0] [2, 7] rfl

theorem validateOne_iff (params : List String) (ins : List (String × List Nat)) (e : String × List DimDecl) :
    validateOne params ins e = true ↔
      (e.1 ∉ params → ∃ shape, ins.lookup e.1 = some shape ∧ Satisfies e.2 shape) := by
  unfold validateOne
  by_cases hp : e.1 ∈ params
  · simp [hp]
  · cases ins.lookup e.1 with
    | none => simp [hp]
    | some shape =>
      -- the rank test ahead of `dimsMatch` is the first half of `Satisfies` once more
      simp only [List.contains_iff_mem, hp, if_false, Bool.and_eq_true, beq_iff_eq, not_false_eq_true,
        Option.some.injEq, exists_eq_left', forall_const, dimsMatch_iff_satisfies]
      exact and_iff_right_of_imp And.left

/-- **Acceptance rule.** `validateShapes` succeeds iff every declared input that carries a shape
and is not an initializer is supplied with a tensor of the declared rank whose fixed dimensions
match — whatever the symbolic / unspecified ones are, and whatever else is supplied. -/
theorem validate_ok_iff (decls : List InputDecl) (params : List String) (ins : List (String × List Nat)) :
    validateShapes decls params ins = .ok () ↔
      ∀ e ∈ inputShapes decls, e.1 ∉ params →
        ∃ shape, ins.lookup e.1 = some shape ∧ Satisfies e.2 shape := by
  unfold validateShapes
  rw [← forall₂_congr fun e _ => validateOne_iff params ins e, ← List.all_eq_true]
  split <;> simp [*]

/-- the only failure is the model error (never a panic); a failing validation means no operator runs:
`Run` returns before building the tensor environment (see `run_validates_first` in C01). -/
theorem validate_error (decls : List InputDecl) (params : List String) (ins : List (String × List Nat)) (e : Err)
    (h : validateShapes decls params ins = .error e) : e = .model := by
  unfold validateShapes at h; split at h
  · cases h
  · cases h; rfl

-- non-vacuity: three declared inputs (one without a shape), `w` an initializer, `x` supplied with a wrong fixed dimension
private def nv_decls : List InputDecl :=
  [⟨"x", some [DimDecl.ofValue 2, DimDecl.ofValue 0]⟩, ⟨"w", some [DimDecl.ofValue 3]⟩, ⟨"u", none⟩]
example : Err.model = .model :=
  validate_error nv_decls ["w"] [("x", [3, 7])] .model (by decide)

/-- an input that is also an initializer is never required -/
theorem shadowed_not_required (decls : List InputDecl) (params : List String) (ins : List (String × List Nat))
    (h : ∀ e ∈ inputShapes decls, e.1 ∈ params) : validateShapes decls params ins = .ok () := by
  rw [validate_ok_iff]; intro e he hp; exact absurd (h e he) hp

-- non-vacuity: both shaped inputs are initializers; only an undeclared tensor is supplied
example : validateShapes nv_decls ["w", "x"] [("y", [1])] = .ok () :=
  shadowed_not_required nv_decls ["w", "x"] [("y", [1])] (by decide)

/-- **Rejection rule**: a required input that is not supplied with a satisfying shape is refused, with the
model error - wherever it stands among the declarations -/
theorem validate_rejects (decls : List InputDecl) (params : List String) (ins : List (String × List Nat))
    (e : String × List DimDecl) (he : e ∈ inputShapes decls) (hp : e.1 ∉ params)
    (hbad : ∀ shape, ins.lookup e.1 = some shape → ¬ Satisfies e.2 shape) :
    validateShapes decls params ins = .error .model := by
  cases hv : validateShapes decls params ins with
  | ok u =>
    obtain ⟨s, hs, hsat⟩ := (validate_ok_iff _ _ _).mp hv e he hp
    exact absurd hsat (hbad s hs)
  | error err => rw [validate_error _ _ _ _ hv]

/-- a missing required input is rejected -/
theorem missing_rejected (decls : List InputDecl) (params : List String) (ins : List (String × List Nat))
    (e : String × List DimDecl) (he : e ∈ inputShapes decls) (hp : e.1 ∉ params) (hm : ins.lookup e.1 = none) :
    validateShapes decls params ins = .error .model :=
  validate_rejects decls params ins e he hp fun s hs => by rw [hm] at hs; cases hs

-- non-vacuity: `x` is declared with a shape, is not an initializer and is not supplied
example : validateShapes nv_decls ["w"] [("y", [1]), ("u", [4])] = .error .model :=
  missing_rejected nv_decls ["w"] [("y", [1]), ("u", [4])] ("x", [DimDecl.ofValue 2, DimDecl.ofValue 0]) (by decide) (by decide) (by decide)

-- non-vacuity
example : validateShapes [⟨"x", some [DimDecl.ofValue 2, DimDecl.ofValue 0]⟩, ⟨"w", some [DimDecl.ofValue 3]⟩] ["w"]
    [("x", [2, 7])] = .ok () ∧
  validateShapes [⟨"x", some [DimDecl.ofValue 2, DimDecl.ofValue 0]⟩] [] [("x", [3, 7])] = .error .model := by decide

end Gonnx.C13
