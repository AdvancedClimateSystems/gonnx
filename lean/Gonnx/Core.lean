/-
Core of the gonnx model: shapes, row-major indexing, dense tensors.
Core-only (no Mathlib) so that the driver links as a `lean_exe`.
-/
namespace Gonnx

/-- number of elements of a shape -/
def prod : List Nat → Nat
  | [] => 1
  | n :: s => n * prod s

/-- all multi-indices of a shape in row-major order -/
def allIdx : List Nat → List (List Nat)
  | [] => [[]]
  | n :: s => (List.range n).flatMap (fun i => (allIdx s).map (i :: ·))

/-- row-major flat offset -/
def ravel : List Nat → List Nat → Nat
  | _ :: s, i :: is => i * prod s + ravel s is
  | _, _ => 0

/-- `InRange idx shape`: same length and pointwise `<` -/
def InRange : List Nat → List Nat → Prop
  | [], [] => True
  | i :: is, n :: ns => i < n ∧ InRange is ns
  | _, _ => False

instance decInRange : (idx s : List Nat) → Decidable (InRange idx s)
  | [], [] => isTrue trivial
  | i :: is, n :: ns =>
    have := decInRange is ns
    inferInstanceAs (Decidable (i < n ∧ InRange is ns))
  | [], _ :: _ => isFalse (fun h => h)
  | _ :: _, [] => isFalse (fun h => h)

/-- shape lookup with default 0 (one normal form for all proofs) -/
def dim (s : List Nat) (j : Nat) : Nat := s.getD j 0

@[simp] theorem prod_nil : prod [] = 1 := rfl
@[simp] theorem prod_cons (n : Nat) (s : List Nat) : prod (n :: s) = n * prod s := rfl

theorem prod_append (a b : List Nat) : prod (a ++ b) = prod a * prod b := by
  induction a with
  | nil => simp
  | cons n a ih => simp [ih, Nat.mul_assoc]

theorem mem_allIdx {s idx : List Nat} : idx ∈ allIdx s ↔ InRange idx s := by
  induction s generalizing idx with
  | nil => cases idx <;> simp [allIdx, InRange]
  | cons n s ih =>
    cases idx with
    | nil => simp [allIdx, InRange]
    | cons i is => simp [allIdx, InRange, ih]

theorem range_mul (n m : Nat) :
    List.range (n * m) = (List.range n).flatMap fun i => (List.range m).map (i * m + ·) := by
  induction n with
  | zero => simp
  | succ n ih =>
    rw [Nat.succ_mul, List.range_add, ih, List.range_succ, List.flatMap_append]
    simp

/-- row-major order: the `i`-th index of `allIdx s` has offset `i` -/
theorem map_ravel_allIdx (s : List Nat) : (allIdx s).map (ravel s) = List.range (prod s) := by
  induction s with
  | nil => rfl
  | cons n s ih =>
    simp only [allIdx, prod, range_mul, List.map_flatMap, List.map_map]
    congr 1
    funext i
    rw [← ih, List.map_map]
    rfl

theorem allIdx_length (s : List Nat) : (allIdx s).length = prod s := by
  simpa using congrArg List.length (map_ravel_allIdx s)

theorem ravel_lt (s idx : List Nat) (h : InRange idx s) : ravel s idx < prod s :=
  List.mem_range.1 (map_ravel_allIdx s ▸ List.mem_map_of_mem (mem_allIdx.2 h))

theorem exists_idx (s : List Nat) (i : Nat) (h : i < prod s) : ∃ idx, InRange idx s ∧ ravel s idx = i := by
  obtain ⟨idx, h1, h2⟩ := List.mem_map.1 (map_ravel_allIdx s ▸ List.mem_range.2 h)
  exact ⟨idx, mem_allIdx.1 h1, h2⟩

theorem allIdx_ravel (s idx : List Nat) (h : InRange idx s) :
    (allIdx s)[ravel s idx]? = some idx := by
  obtain ⟨i, hi, rfl⟩ := List.getElem_of_mem (mem_allIdx.2 h)
  have := congrArg (·[i]?) (map_ravel_allIdx s)
  simp only [List.getElem?_map, List.getElem?_eq_getElem hi, Option.map_some,
    List.getElem?_range (allIdx_length s ▸ hi), Option.some.injEq] at this
  rw [this, List.getElem?_eq_getElem hi]

/-- pointwise characterisation of `InRange` -/
theorem InRange_iff (idx s : List Nat) :
    InRange idx s ↔ idx.length = s.length ∧ ∀ j, j < s.length → idx.getD j 0 < dim s j := by
  induction idx generalizing s with
  | nil =>
    cases s with
    | nil => exact ⟨fun _ => ⟨rfl, fun _ h => nomatch h⟩, fun _ => trivial⟩
    | cons n ns => exact ⟨False.elim, fun h => nomatch h.1⟩
  | cons i is ih =>
    cases s with
    | nil => exact ⟨False.elim, fun h => nomatch h.1⟩
    | cons n ns =>
      rw [InRange, ih, List.length_cons, List.length_cons, Nat.add_right_cancel_iff, Nat.forall_lt_succ_left]
      exact ⟨fun ⟨h0, hl, h⟩ => ⟨hl, h0, h⟩, fun ⟨hl, h0, h⟩ => ⟨h0, hl, h⟩⟩

theorem InRange_length {idx s : List Nat} (h : InRange idx s) : idx.length = s.length :=
  ((InRange_iff idx s).1 h).1

theorem InRange_append (x1 x2 s1 s2 : List Nat) (hl : x1.length = s1.length) :
    InRange (x1 ++ x2) (s1 ++ s2) ↔ InRange x1 s1 ∧ InRange x2 s2 := by
  induction x1 generalizing s1 with
  | nil =>
    cases s1 with
    | nil => exact (and_iff_right trivial).symm
    | cons n s1 => cases hl
  | cons i x1 ih =>
    cases s1 with
    | nil => cases hl
    | cons n s1 =>
      show i < n ∧ InRange (x1 ++ x2) (s1 ++ s2) ↔ (i < n ∧ InRange x1 s1) ∧ InRange x2 s2
      rw [ih s1 (Nat.succ.inj hl), and_assoc]

theorem InRange_split (idx s1 s2 : List Nat) (h : InRange idx (s1 ++ s2)) :
    InRange (idx.take s1.length) s1 ∧ InRange (idx.drop s1.length) s2 := by
  have hlen := InRange_length h
  rw [List.length_append] at hlen
  rw [← List.take_append_drop s1.length idx] at h
  exact (InRange_append _ _ _ _ (List.length_take_of_le (by omega))).1 h

theorem ravel_append (x1 x2 s1 s2 : List Nat) (hl : x1.length = s1.length) :
    ravel (s1 ++ s2) (x1 ++ x2) = ravel s1 x1 * prod s2 + ravel s2 x2 := by
  induction x1 generalizing s1 with
  | nil =>
    cases s1 with
    | nil =>
      show ravel s2 x2 = 0 * prod s2 + ravel s2 x2
      rw [Nat.zero_mul, Nat.zero_add]
    | cons n s1 => cases hl
  | cons i x1 ih =>
    cases s1 with
    | nil => cases hl
    | cons n s1 =>
      show i * prod (s1 ++ s2) + ravel (s1 ++ s2) (x1 ++ x2) = (i * prod s1 + ravel s1 x1) * prod s2 + ravel s2 x2
      rw [ih s1 (Nat.succ.inj hl), prod_append, Nat.add_mul, Nat.mul_assoc, Nat.add_assoc]

/-- Dense row-major tensor. A scalar has `shape = []`. -/
structure Tensor (α : Type) where
  shape : List Nat
  data : List α
deriving Repr, BEq, DecidableEq

namespace Tensor
variable {α : Type}

def WF (t : Tensor α) : Prop := t.data.length = prod t.shape

def get [Inhabited α] (t : Tensor α) (idx : List Nat) : α :=
  t.data.getD (ravel t.shape idx) default

def rank (t : Tensor α) : Nat := t.shape.length

def size (t : Tensor α) : Nat := prod t.shape

end Tensor

/-- tensor defined by its value at every index -/
def ofFn {α : Type} (s : List Nat) (f : List Nat → α) : Tensor α := ⟨s, (allIdx s).map f⟩

@[simp] theorem ofFn_shape {α : Type} (s : List Nat) (f : List Nat → α) : (ofFn s f).shape = s := rfl

theorem ofFn_WF {α : Type} (s : List Nat) (f : List Nat → α) : (ofFn s f).WF := by
  simp [Tensor.WF, ofFn, allIdx_length]

theorem get_ofFn {α : Type} [Inhabited α] (s : List Nat) (f : List Nat → α) (idx : List Nat)
    (h : InRange idx s) : (ofFn s f).get idx = f idx := by
  show ((allIdx s).map f)[ravel s idx]?.getD default = f idx
  rw [List.getElem?_map, allIdx_ravel s idx h]
  rfl

end Gonnx
