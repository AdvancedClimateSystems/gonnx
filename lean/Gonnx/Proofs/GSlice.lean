import Gonnx.Proofs.Tensor
/-
What gorgonia's `gSlice` returns, said once for Slice, Conv (`getSubImage`, the kernel of a channel) and the
recurrent operators (gate blocks, time steps), in terms of the REQUESTS (`Option Sl` per axis). One axis: a request
in range (`SlOK`) is answered with `selOf` (`axisSel_eq`), for any start, stop and step. All axes: the selections
decide the result (`gSlice_eq`) unless they select a single element, which gorgonia returns as a scalar;
`gSlice_at` is the case all callers but Slice are in: one position on axis 0, whole axes or unit-step windows
behind it.
-/
namespace Gonnx.Proofs.GSlice
open Gonnx Gonnx.Proofs
variable {α : Type} [Inhabited α]

/-! ### one axis -/

/-- the end of a request, clamped to the extent `d` -/
def clampEnd (d : Nat) (stop : Int) : Int := if stop > d then (d : Int) else stop

/-- ⌈(min(stop, d) - start) / step⌉ -/
def extQ (d : Nat) (sl : Sl) : Int := (clampEnd d sl.stop - sl.start + sl.step - 1) / sl.step

/-- the requests for axis number `i` of extent `d` on which `axisSel` does what ONNX does: a start in
`[0, min(stop, d))`, a step ≥ 1 and, on axis 0, a step dividing the clamped length (there gorgonia rounds the
extent down, on the other axes up) -/
def SlOK (i d : Nat) : Option Sl → Prop
  | none => True
  | some sl => 0 ≤ sl.start ∧ sl.start < d ∧ sl.start < sl.stop ∧ 1 ≤ sl.step ∧
      (i = 0 → (clampEnd d sl.stop - sl.start) % sl.step = 0)

/-- what `axisSel` answers to them -/
def selOf (d : Nat) : Option Sl → AxisSel × Int × Int
  | none => (⟨0, d, 1, false⟩, 0, d)
  | some sl => (⟨sl.start.toNat, (extQ d sl).toNat, sl.step.toNat, decide (extQ d sl = 1)⟩,
      sl.start, clampEnd d sl.stop)

/-- the ceiling of `L / step` is the quotient, plus one when there is a remainder -/
theorem ceil_ediv (L step : Int) (hs : 0 < step) :
    (L + step - 1) / step = if L % step > 0 then L / step + 1 else L / step := by
  have hd : L % step + step * (L / step) = L := Int.emod_add_mul_ediv L step
  have hr0 : 0 ≤ L % step := Int.emod_nonneg L (by omega)
  have hr1 : L % step < step := Int.emod_lt_of_pos L hs
  split
  · exact ((Int.ediv_emod_unique hs).2 ⟨by rw [Int.mul_add]; omega, by omega, by omega⟩ :
      _ ∧ (L + step - 1) % step = L % step - 1).1
  · exact ((Int.ediv_emod_unique hs).2 ⟨by omega, by omega, by omega⟩ :
      _ ∧ (L + step - 1) % step = step - 1).1

theorem axisSel_eq {i d : Nat} {o : Option Sl} (h : SlOK i d o) : axisSel i d o = .ok (selOf d o) := by
  cases o with
  | none => rfl
  | some sl =>
    obtain ⟨hs0, hsd, hse, hst, h0⟩ := h
    have hL : 0 < clampEnd d sl.stop - sl.start := by unfold clampEnd; split <;> omega
    have hs : 0 < sl.step := by omega
    have hq : 1 ≤ extQ d sl := (Int.le_ediv_iff_mul_le hs).2 (by omega)
    -- gorgonia rounds the truncated quotient up off axis 0 only; on axis 0 there is nothing to round
    have hax : ((clampEnd d sl.stop - sl.start) % sl.step > 0 ∧ i > 0) ↔
        (clampEnd d sl.stop - sl.start) % sl.step > 0 :=
      ⟨And.left, fun h => ⟨h, Nat.pos_of_ne_zero fun e => by have := h0 e; omega⟩⟩
    unfold extQ at hq
    unfold axisSel selOf extQ
    simp only
    rw [if_neg (by omega)]
    unfold clampEnd at hL hax hq ⊢
    rw [if_neg (by omega)]
    simp only [hs, if_true, Int.tdiv_eq_ediv_of_nonneg (Int.le_of_lt hL), Int.tmod_eq_emod_of_nonneg (Int.le_of_lt hL),
      hax, ← ceil_ediv _ _ hs]
    rw [if_neg (by omega)]

theorem selOf_none (d : Nat) : selOf d none = ((⟨0, d, 1, false⟩ : AxisSel), (0 : Int), (d : Int)) := rfl

/-- a request in range selects a position -/
theorem selOf_span {i d : Nat} {o : Option Sl} (hd : 0 < d) (h : SlOK i d o) :
    (selOf d o).2.1 < (selOf d o).2.2 := by
  cases o with
  | none => exact Int.natCast_pos.2 hd
  | some sl =>
    obtain ⟨_, hsd, hse, _, _⟩ := h
    show sl.start < clampEnd d sl.stop
    unfold clampEnd
    split <;> omega

/-- a request in range whose extent is at least 2: gorgonia then keeps the axis, as ONNX always does -/
def SlKept (i d : Nat) (o : Option Sl) : Prop := SlOK i d o ∧ ∀ sl, o = some sl → 2 ≤ extQ d sl

/-- an extent ≥ 2 leaves room for two positions -/
theorem extQ_two {d : Nat} {sl : Sl} (hst : 1 ≤ sl.step) (he : 2 ≤ extQ d sl) :
    sl.start + 2 ≤ clampEnd d sl.stop := by
  have := (Int.le_ediv_iff_mul_le (by omega : 0 < sl.step)).1 he
  omega

/-- the bounds on the start follow from the extent -/
theorem SlKept.of_ext {i d : Nat} {sl : Sl} (hs : 0 ≤ sl.start) (hst : 1 ≤ sl.step) (he : 2 ≤ extQ d sl)
    (h0 : i = 0 → (clampEnd d sl.stop - sl.start) % sl.step = 0) : SlKept i d (some sl) := by
  have hK := extQ_two hst he
  have hd : clampEnd d sl.stop ≤ d ∧ clampEnd d sl.stop ≤ sl.stop := by
    unfold clampEnd
    split <;> omega
  exact ⟨⟨hs, by omega, by omega, hst, h0⟩, fun _ h => by cases h; exact he⟩

theorem selOf_nodrop {i d : Nat} {o : Option Sl} (h : SlKept i d o) : (selOf d o).1.drop = false := by
  cases o with
  | none => rfl
  | some sl =>
    have := h.2 sl rfl
    simp only [selOf, decide_eq_false_iff_not]
    omega

/-- a kept sliced axis, or a whole axis of extent ≥ 2, selects two positions -/
theorem selOf_span_two {i d : Nat} {o : Option Sl} (h : SlKept i d o) (h2 : o.isSome ∨ 2 ≤ d) :
    (selOf d o).2.1 + 2 ≤ (selOf d o).2.2 := by
  cases o with
  | none =>
    simp only [Option.isSome_none, Bool.false_eq_true, false_or] at h2
    simp only [selOf]
    omega
  | some sl => exact extQ_two h.1.2.2.2.1 (h.2 sl rfl)

/-- a window `[st, st + k)` with step 1 is in range … -/
theorem SlOK_win (i d st k : Nat) (hk : 1 ≤ k) (hfit : st + k ≤ d) :
    SlOK i d (some ⟨st, (st : Int) + k, 1⟩) :=
  ⟨Int.natCast_nonneg st, (by omega : (st : Int) < d), (by omega : (st : Int) < st + k), Int.le_refl 1,
    fun _ => Int.emod_one _⟩

/-- … and selects its `k` positions -/
theorem selOf_win (d st k : Nat) (hfit : st + k ≤ d) :
    selOf d (some ⟨st, (st : Int) + k, 1⟩) = (⟨st, k, 1, decide (k = 1)⟩, (st : Int), (st : Int) + k) := by
  have hc : clampEnd d ((st : Int) + (k : Int)) = (st : Int) + (k : Int) := if_neg (by omega)
  have he : extQ d ⟨st, (st : Int) + k, 1⟩ = (k : Int) := by
    unfold extQ
    simp only [hc, Int.ediv_one]
    omega
  have h1 : ((k : Int) = 1) ↔ k = 1 := Int.natCast_inj (n := 1)
  simp only [selOf, hc, he, Int.toNat_natCast, Int.toNat_one, h1]

/-! ### all axes -/

/-- the selection of axis `j` under the request list `sl` (missing entries: whole axes) -/
abbrev selAt (shape : List Nat) (sl : List (Option Sl)) (j : Nat) : AxisSel × Int × Int :=
  selOf (dim shape j) (sl.getD j none)

/-- `axisSels` succeeds with the list of the per-axis results -/
theorem axisSels_ok (shape : List Nat) (i : Nat) (sls : List (Option Sl)) (g : Nat → AxisSel × Int × Int)
    (h : ∀ j, j < shape.length → axisSel (i + j) (dim shape j) (sls.getD j none) = .ok (g j)) :
    axisSels i shape sls = .ok ((List.range shape.length).map g) := by
  induction shape generalizing i sls g with
  | nil => rfl
  | cons n rest ih =>
    unfold axisSels
    have h0 := h 0 (by simp)
    rw [dim_cons_zero, ← List.headD_eq_getD, Nat.add_zero] at h0
    rw [h0]
    simp only
    rw [ih (i+1) sls.tail (fun j => g (j+1))]
    · simp only [List.length_cons, List.range_succ_eq_map, List.map_cons, List.map_map]
      rfl
    · intro j hj
      have := h (j+1) (by simp; omega)
      rw [dim_cons_succ, ← getD_tail] at this
      rw [← this]
      congr 1
      omega

theorem axisSels_eq (shape : List Nat) (i : Nat) (sl : List (Option Sl))
    (h : ∀ j, j < shape.length → SlOK (i + j) (dim shape j) (sl.getD j none)) :
    axisSels i shape sl = .ok ((List.range shape.length).map (selAt shape sl)) :=
  axisSels_ok shape i sl _ fun j hj => axisSel_eq (h j hj)

/-! ### the scalar collapse -/

/-- `ndEnd - ndStart` of `gSlice`: one more than the flat distance from the first to the last selected element -/
def ndGap (sels : List (AxisSel × Int × Int)) (shape : List Nat) : Int :=
  (List.zipWith (fun ((a, sz) : (AxisSel × Int × Int) × Nat) (s : Nat) => ((sz : Int) - a.2.2) * s)
      (sels.zip shape) (strides shape)).foldl (fun acc x => acc - x) (prod shape : Int) -
    (List.zipWith (fun (a : AxisSel × Int × Int) (s : Nat) => a.2.1 * s) sels (strides shape)).foldl (· + ·) 0

theorem ndGap_nil : ndGap [] [] = 1 := by simp [ndGap, strides]

theorem ndGap_cons (a : AxisSel × Int × Int) (sels : List (AxisSel × Int × Int)) (n : Nat) (s : List Nat) :
    ndGap (a :: sels) (n :: s) = (a.2.2 - a.2.1 - 1) * (prod s : Int) + ndGap sels s := by
  unfold ndGap
  simp only [strides, List.zip_cons_cons, List.zipWith_cons_cons, foldl_sub_eq, foldl_add_eq, List.sum_cons,
    prod_cons, Int.natCast_mul, Int.sub_mul, Int.one_mul]
  omega

/-- every axis selects a position, so the gap is at least 1; it is more as soon as one axis selects two
(the axes behind it having positive extent) -/
theorem ndGap_bound (sels : List (AxisSel × Int × Int)) (shape : List Nat) (hl : sels.length = shape.length)
    (hpos : Pos shape) (h : ∀ a ∈ sels, a.2.1 < a.2.2) :
    1 ≤ ndGap sels shape ∧ ((∃ a ∈ sels, a.2.1 + 2 ≤ a.2.2) → 1 < ndGap sels shape) := by
  induction sels generalizing shape with
  | nil =>
    cases shape with
    | nil => rw [ndGap_nil]; simp
    | cons n s => simp at hl
  | cons a sels ih =>
    cases shape with
    | nil => simp at hl
    | cons n s =>
      rw [ndGap_cons]
      have hs : Pos s := fun m hm => hpos m (by simp [hm])
      obtain ⟨ih1, ih2⟩ := ih s (by simpa using hl) hs (fun b hb => h b (by simp [hb]))
      have h1 := h a (by simp)
      have hp : (1 : Int) ≤ (prod s : Int) := by have := prod_pos hs; omega
      have e0 : 0 ≤ (a.2.2 - a.2.1 - 1) * (prod s : Int) := Int.mul_nonneg (by omega) (by omega)
      refine ⟨by omega, ?_⟩
      rintro ⟨b, hb, hb2⟩
      rcases List.mem_cons.1 hb with rfl | hb
      · have : 1 * 1 ≤ (b.2.2 - b.2.1 - 1) * (prod s : Int) := Int.mul_le_mul (by omega) hp (by omega) (by omega)
        omega
      · have := ih2 ⟨b, hb, hb2⟩
        omega

/-- requests in range on a tensor with positive extents, one of them selecting two positions (no collapse to
a scalar): `gSlice` reads the source through `sliceIndex`, on the axes that are not dropped -/
theorem gSlice_eq (t : Tensor α) (sl : List (Option Sl)) (hlen : sl.length ≤ t.shape.length) (hpos : Pos t.shape)
    (hok : ∀ j, j < t.shape.length → SlOK j (dim t.shape j) (sl.getD j none))
    (h2 : ∃ j, j < t.shape.length ∧ (selAt t.shape sl j).2.1 + 2 ≤ (selAt t.shape sl j).2.2) :
    gSlice t sl = .ok (ofFn ((((List.range t.shape.length).map fun j => (selAt t.shape sl j).1).filter
        (!·.drop)).map (·.ext))
      fun idx => t.get (sliceIndex ((List.range t.shape.length).map fun j => (selAt t.shape sl j).1) idx)) := by
  have hg : ndGap ((List.range t.shape.length).map (selAt t.shape sl)) t.shape ≠ 1 := by
    obtain ⟨j, hj, h⟩ := h2
    have := (ndGap_bound ((List.range t.shape.length).map (selAt t.shape sl)) t.shape (by simp) hpos fun a ha => by
      obtain ⟨j, hj, rfl⟩ := List.mem_map.1 ha
      exact selOf_span (Pos_dim hpos (List.mem_range.1 hj)) (hok j (List.mem_range.1 hj))).2
        ⟨_, List.mem_map_of_mem (List.mem_range.2 hj), h⟩
    omega
  unfold gSlice
  rw [if_neg (by omega), axisSels_eq t.shape 0 sl (by simpa using hok)]
  simp only
  unfold ndGap at hg
  rw [if_neg hg, List.map_map]
  rfl

/-! ### the index map -/

theorem sliceIndex_nodrop (as : List AxisSel) (idx : List Nat) (h : ∀ a ∈ as, a.drop = false)
    (hl : as.length ≤ idx.length) :
    sliceIndex as idx = List.zipWith (fun (a : AxisSel) (i : Nat) => a.start + i * a.step) as idx := by
  induction as generalizing idx with
  | nil => simp [sliceIndex]
  | cons a as ih =>
    cases idx with
    | nil => simp at hl
    | cons i is =>
      simp only [sliceIndex, h a (by simp), Bool.false_eq_true, if_false, List.headD_cons, List.tail_cons,
        List.zipWith_cons_cons]
      rw [ih is (fun b hb => h b (by simp [hb])) (by simpa using hl)]

/-! ### one position on axis 0 -/

/-- position `p` on axis 0 (which gorgonia drops) and, on every other axis `j`, either the whole axis
(`offs j = 0`, `exts j` its extent) or the window `[offs j, offs j + exts j)` of extent ≥ 2 (so that the axis
is kept): the result has the extents `exts` and reads the source at `p :: offs + idx` -/
theorem gSlice_at (t : Tensor α) (n p : Nat) (S offs exts : List Nat) (sl : List (Option Sl))
    (ht : t.shape = n :: S) (hp : p < n) (hS : Pos S) (hsl : sl.length ≤ S.length)
    (hl1 : offs.length = S.length) (hl2 : exts.length = S.length)
    (hreq : ∀ j, j < S.length →
      (sl.getD j none = none ∧ dim offs j = 0 ∧ dim exts j = dim S j) ∨
      (sl.getD j none = some ⟨dim offs j, (dim offs j : Int) + dim exts j, 1⟩ ∧ 2 ≤ dim exts j ∧
        dim offs j + dim exts j ≤ dim S j))
    (h2 : ∃ j, j < S.length ∧ 2 ≤ dim exts j) :
    gSlice t (some ⟨p, p + 1, 1⟩ :: sl) =
      .ok (ofFn exts fun idx => t.get (p :: List.zipWith (· + ·) offs idx)) := by
  -- what axis `j + 1` is asked for, and what it selects
  have hax : ∀ j, j < S.length → SlOK (j + 1) (dim S j) (sl.getD j none) ∧
      selOf (dim S j) (sl.getD j none) =
        (⟨dim offs j, dim exts j, 1, false⟩, (dim offs j : Int), (dim offs j : Int) + dim exts j) := by
    intro j hj
    rcases hreq j hj with ⟨e, ho, he⟩ | ⟨e, he, hf⟩
    · rw [e, ho, he]
      exact ⟨trivial, by rw [selOf_none, Int.natCast_zero, Int.zero_add]⟩
    · rw [e, selOf_win _ _ _ hf, decide_eq_false (by omega : ¬ dim exts j = 1)]
      exact ⟨SlOK_win _ _ _ _ (by omega) hf, rfl⟩
  have h0 := selOf_win n p 1 hp
  simp only [Int.natCast_one, decide_true] at h0
  rw [gSlice_eq t _ (by rw [ht]; simpa using hsl)
    (ht ▸ Pos_cons (Nat.zero_lt_of_lt hp) hS)
    (by
      rw [ht]
      intro j hj
      cases j with
      | zero => exact SlOK_win 0 n p 1 (Nat.le_refl 1) hp
      | succ j => exact (hax j (by simpa using hj)).1)
    (by
      obtain ⟨j, hj, he⟩ := h2
      refine ⟨j + 1, by rw [ht]; simpa using hj, ?_⟩
      rw [ht]
      show (selOf (dim S j) (sl.getD j none)).2.1 + 2 ≤ (selOf (dim S j) (sl.getD j none)).2.2
      rw [(hax j hj).2]
      simp only
      omega)]
  have hsels : (List.range t.shape.length).map (fun j => (selAt t.shape (some ⟨p, p + 1, 1⟩ :: sl) j).1) =
      ⟨p, 1, 1, true⟩ :: (List.range S.length).map fun j => (⟨dim offs j, dim exts j, 1, false⟩ : AxisSel) := by
    rw [ht, List.length_cons, List.range_succ_eq_map, List.map_cons, List.map_map]
    congr 1
    · show (selOf n (some ⟨p, p + 1, 1⟩)).1 = _
      rw [h0]
    · exact List.map_congr_left fun j hj => congrArg (·.1) (hax j (List.mem_range.1 hj)).2
  have hnd : ∀ a ∈ (List.range S.length).map fun j => (⟨dim offs j, dim exts j, 1, false⟩ : AxisSel),
      a.drop = false := by
    intro a ha
    obtain ⟨j, _, rfl⟩ := List.mem_map.1 ha
    rfl
  have he : (List.range S.length).map (dim exts) = exts := (tab_dim hl2).symm
  have ho : (List.range S.length).map (dim offs) = offs := (tab_dim hl1).symm
  simp only [hsels, List.filter_cons, Bool.not_true, Bool.false_eq_true, if_false]
  rw [List.filter_eq_self.2 (fun a ha => by rw [hnd a ha]; rfl), List.map_map]
  refine (congrArg (fun s => Except.ok (ofFn s _)) he).trans (congrArg _ (ofFn_congr fun idx hidx => ?_))
  rw [sliceIndex, if_pos rfl, sliceIndex_nodrop _ _ hnd (by simp [InRange_length hidx, hl2]),
    List.zipWith_map_left]
  conv => rhs; rw [← ho, List.zipWith_map_left]
  simp only [Nat.mul_one]

/-- the positions a window reads are positions of the source -/
theorem InRange_window {S offs exts idx : List Nat} (hl1 : offs.length = S.length) (hl2 : exts.length = S.length)
    (hfit : ∀ j, j < S.length → dim offs j + dim exts j ≤ dim S j) (h : InRange idx exts) :
    InRange (List.zipWith (· + ·) offs idx) S := by
  rw [InRange_dim] at h ⊢
  refine ⟨by rw [List.length_zipWith, h.1, hl1, hl2, Nat.min_self], fun j hj => ?_⟩
  rw [dim_zipWith _ _ _ _ (hl1 ▸ hj) (by rw [h.1, hl2]; exact hj)]
  have := h.2 j (hl2 ▸ hj)
  have := hfit j hj
  omega

/-- position `p` on axis 0, every other axis whole, whether the request says so (`none`) or ends before it -/
theorem gSlice_row (t : Tensor α) (n p : Nat) (S : List Nat) (k : Nat) (ht : t.shape = n :: S) (hp : p < n)
    (hS : Pos S) (hk : k ≤ S.length) (h2 : ∃ j, j < S.length ∧ 2 ≤ dim S j) :
    gSlice t (some ⟨p, p + 1, 1⟩ :: List.replicate k none) = .ok (ofFn S fun idx => t.get (p :: idx)) := by
  rw [gSlice_at t n p S (List.replicate S.length 0) S _ ht hp hS (by rw [List.length_replicate]; exact hk)
    List.length_replicate rfl
    (fun j hj => .inl ⟨getD_replicate_self k none j, by rw [dim_replicate, if_pos hj], rfl⟩) h2]
  exact congrArg _ (ofFn_congr fun idx hidx => by rw [← InRange_length hidx, zipWith_add_zeros])

end Gonnx.Proofs.GSlice
