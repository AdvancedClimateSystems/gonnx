/-
`List.mapM` in `Except ε` and in `Option`: the loop "apply `f` to every element, return at the first
failure". The hand-written loops of that shape in the graph layer are each shown equal to a `mapM` once
(`decodeParams_eq_mapM`, `gatherInputs_eq_mapM`; `gatherIds` is `gatherInputs` at the type of object identifiers,
`Effects.gatherIds_eq`) and reasoned about through these lemmas. A success is an equation between lists,
`l.map f = ys.map pure` (`mapM_ok_iff`, `mapM_some_iff`); what is known of a success follows from it.
-/
namespace Gonnx.Proofs
variable {ε α β γ : Type}

/-! ### `>>=` and guards in `Except` -/

theorem ok_bind (a : α) (f : α → Except ε β) : (Except.ok a >>= f) = f a := rfl

/-- one line `let v ← x` of a `do` block, given what `x` returns: what is left to show is about the rest -/
theorem bind_of_ok {x : Except ε α} {v : α} (hx : x = .ok v) {k : α → Except ε β} {r : Except ε β}
    (hk : k v = r) : x >>= k = r := by
  subst hx
  exact hk

theorem bind_eq_ok {x : Except ε α} {f : α → Except ε β} {b : β} :
    x >>= f = .ok b ↔ ∃ a, x = .ok a ∧ f a = .ok b := by
  cases x with
  | error e => exact ⟨fun h => (nomatch h), fun ⟨_, h, _⟩ => (nomatch h)⟩
  | ok a => exact ⟨fun h => ⟨a, rfl, h⟩, fun ⟨_, h, hf⟩ => by cases h; exact hf⟩

/-- an operator that begins with a guard and returned a value computed what follows the guard -/
theorem ok_of_ite_error {c : Prop} [Decidable c] {e : ε} {x : Except ε α} {y : α}
    (h : (if c then .error e else x) = .ok y) : x = .ok y := by
  by_cases hc : c
  · rw [if_pos hc] at h; cases h
  · rwa [if_neg hc] at h

/-- an outcome in closed form, `if c then .ok x else .error e`, read backwards -/
theorem ite_ok_eq_ok {c : Prop} [Decidable c] {e : ε} {x y : α} :
    (if c then .ok x else .error e : Except ε α) = .ok y ↔ c ∧ x = y := by
  split <;> simp [*]

theorem ite_ok_eq_error {c : Prop} [Decidable c] {e e' : ε} {x : α} :
    (if c then .ok x else .error e : Except ε α) = .error e' ↔ ¬ c ∧ e = e' := by
  split <;> simp [*]

/-! ### `mapM` in `Except` -/

theorem mapM_ok_iff (f : α → Except ε β) (l : List α) (ys : List β) :
    l.mapM f = .ok ys ↔ l.map f = ys.map .ok := by
  induction l generalizing ys with
  | nil => cases ys <;> simp [pure, Except.pure]
  | cons a l ih =>
    rw [List.mapM_cons, bind_eq_ok]
    cases ys with
    | nil => simp [bind_eq_ok, pure, Except.pure]
    | cons y ys => simp [bind_eq_ok, pure, Except.pure, ih]

theorem mapM_ok_mem (f : α → Except ε β) (l : List α) (ys : List β) (hl : l.mapM f = .ok ys)
    (y : β) (hy : y ∈ ys) : ∃ x ∈ l, f x = .ok y :=
  List.mem_map.1 ((mapM_ok_iff f l ys).1 hl ▸ List.mem_map_of_mem hy)

theorem mapM_ok_of_mem (f : α → Except ε β) (l : List α) (ys : List β) (hl : l.mapM f = .ok ys)
    (x : α) (hx : x ∈ l) : ∃ y ∈ ys, f x = .ok y :=
  have ⟨y, hy, e⟩ := List.mem_map.1 ((mapM_ok_iff f l ys).1 hl ▸ List.mem_map_of_mem hx)
  ⟨y, hy, e.symm⟩

theorem mapM_ok_of_forall (f : α → Except ε β) (g : α → β) (l : List α)
    (h : ∀ x ∈ l, f x = .ok (g x)) : l.mapM f = .ok (l.map g) := by
  rw [mapM_ok_iff, List.map_map]
  exact List.map_congr_left h

theorem mapM_ok_mono (f g : α → Except ε β) (l : List α) (ys : List β)
    (hfg : ∀ x ∈ l, ∀ y, f x = .ok y → g x = .ok y) (hl : l.mapM f = .ok ys) : l.mapM g = .ok ys := by
  rw [mapM_ok_iff, ← (mapM_ok_iff f l ys).1 hl]
  refine List.map_congr_left fun x hx => ?_
  obtain ⟨y, _, hy⟩ := mapM_ok_of_mem f l ys hl x hx
  rw [hy, hfg x hx y hy]

theorem mapM_first_error (f : α → Except ε β) (pre : List α) (x : α) (post : List α) (e : ε)
    (hpre : ∀ q ∈ pre, ∃ y, f q = .ok y) (hx : f x = .error e) :
    (pre ++ x :: post).mapM f = .error e := by
  induction pre with
  | nil => simp [List.mapM_cons, hx, bind, Except.bind]
  | cons q qs ih =>
    obtain ⟨y, hq⟩ := hpre q List.mem_cons_self
    simp [List.mapM_cons, hq, ih fun q' hq' => hpre q' (List.mem_cons_of_mem _ hq'), bind, Except.bind]

theorem mapM_error_mem (f : α → Except ε β) (l : List α) (e : ε) (h : l.mapM f = .error e) :
    ∃ x ∈ l, f x = .error e := by
  induction l with
  | nil => cases h
  | cons a l ih =>
    rw [List.mapM_cons] at h
    cases ha : f a with
    | error e' => rw [ha] at h; cases h; exact ⟨a, List.mem_cons_self, ha⟩
    | ok y =>
      cases hl : l.mapM f with
      | error e' =>
        rw [ha, hl] at h; cases h
        obtain ⟨x, hx, hfx⟩ := ih hl
        exact ⟨x, List.mem_cons_of_mem _ hx, hfx⟩
      | ok ys => rw [ha, hl] at h; cases h

/-! ### the same loop in `Option` -/

theorem mapM_some_iff (f : α → Option β) (l : List α) (ys : List β) :
    l.mapM f = some ys ↔ l.map f = ys.map some := by
  induction l generalizing ys with
  | nil => cases ys <;> simp
  | cons a l ih =>
    rw [List.mapM_cons]
    cases ys with
    | nil => simp [Option.bind_eq_some_iff]
    | cons y ys => simp [Option.bind_eq_some_iff, ih]

/-- the results of a successful `mapM` are a function of the arguments -/
theorem mapM_some_eq_map [Inhabited β] {f : α → Option β} {l : List α} {ys : List β} (h : l.mapM f = some ys) :
    ∃ v : α → β, ys = l.map v ∧ ∀ x ∈ l, f x = some (v x) := by
  rw [mapM_some_iff] at h
  have hv : ys = l.map fun x => (f x).getD default := by
    have := congrArg (List.map (Option.getD · default)) h
    rw [List.map_map, List.map_map] at this
    exact ((List.map_id'' (fun _ => rfl) ys).symm.trans this.symm)
  refine ⟨_, hv, List.map_inj_left.1 ?_⟩
  rw [h, hv, List.map_map]
  rfl

end Gonnx.Proofs
