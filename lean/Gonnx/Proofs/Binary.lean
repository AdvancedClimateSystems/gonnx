import Gonnx.Ops.Binary
import Gonnx.Spec.Binary
import Gonnx.Proofs.Broadcast
import Gonnx.Proofs.MapM
/-
Helper lemmas for C03: the binary-operator model equals the ONNX spec.
-/
namespace Gonnx.Proofs
open Gonnx Gonnx.Spec
variable {α β : Type} [Inhabited α] [Inhabited β]

/-! ### the elementwise kernels -/

omit [Inhabited α] [Inhabited β] in
theorem mapM_zipWith_total (f : α → α → Option β) (g : α → α → β)
    (hfg : ∀ a b, f a b = some (g a b)) (a b : List α) :
    (List.zipWith f a b).mapM id = some (List.zipWith g a b) := by
  rw [mapM_some_iff, List.map_id, show f = fun a b => some (g a b) from funext fun a => funext (hfg a),
    List.map_zipWith]

omit [Inhabited β] in
/-- a fallible kernel that never fails is the total one -/
theorem applyBinaryM_total (f : α → α → Option β) (g : α → α → β)
    (hfg : ∀ a b, f a b = some (g a b)) (A B : Tensor α) :
    applyBinaryM f A B = applyBinary g .multi A B := by
  unfold applyBinaryM applyBinary zipSameM zipSame
  simp only [mapM_zipWith_total f g hfg]

/-! ### the operators in closed form -/

omit [Inhabited β] in
theorem applyBinary_eq (f : α → α → β) (A B : Tensor α) :
    applyBinary f .multi A B =
      if Compatible A.shape B.shape = true then
        .ok ⟨(stretch A B.shape).shape, List.zipWith f (stretch A B.shape).data (stretch B A.shape).data⟩
      else .error .broadcast := by
  simp only [applyBinary, multidirBroadcast_eq]
  by_cases hc : Compatible A.shape B.shape = true
  · simp only [if_pos hc, zipSame, if_pos (stretch_shape_eq A B hc)]
  · simp only [if_neg hc]

theorem applyBooleanOp_eq (f : α → α → α) (A B : Tensor α) :
    applyBooleanOp f A B =
      if Compatible A.shape B.shape = true then
        .ok (ofFn (stretch A B.shape).shape fun idx => f ((stretch A B.shape).get idx) ((stretch B A.shape).get idx))
      else .error .broadcast := by
  simp only [applyBooleanOp, multidirBroadcast_eq]
  by_cases hc : Compatible A.shape B.shape = true
  · simp only [if_pos hc, applyBoolean, multidir_same _ _ (stretch_shape_eq A B hc)]
  · simp only [if_neg hc]

/-- on dense operands the coordinate-iterator path computes what the kernel path computes -/
theorem applyBooleanOp_dense (f : α → α → α) (A B : Tensor α) (hA : A.WF) (hB : B.WF) :
    applyBooleanOp f A B = applyBinary f .multi A B := by
  rw [applyBooleanOp_eq, applyBinary_eq]
  split
  · next hc =>
    rw [zipWith_eq_ofFn f (Is_self (stretch A B.shape))
      ⟨(stretch_shape_eq A B hc).symm, fun _ _ => rfl⟩ (stretch_WF A _ hA) (stretch_WF B _ hB)]
  · rfl

omit [Inhabited β] in
/-- on dense operands with positive extents the model computes the table the specification names -/
theorem applyBinary_dense (f : α → α → β) (A B : Tensor α) (hA : Pos A.shape) (hB : Pos B.shape)
    (hAW : A.WF) (hBW : B.WF) :
    applyBinary f .multi A B =
      if Compatible A.shape B.shape = true then
        .ok (ofFn (bshape A.shape B.shape) fun idx => f (A.get (pin A.shape idx)) (B.get (pin B.shape idx)))
      else .error .broadcast := by
  rw [applyBinary_eq]
  split
  · next hc =>
    obtain ⟨iA, iB⟩ := multidir_Is A B hA hB hc
    rw [iA.1, zipWith_eq_ofFn f iA iB (stretch_WF A _ hAW) (stretch_WF B _ hBW)]
  · rfl

omit [Inhabited β] in
/-- … which is what `Spec.binary` returns: the model is the specification -/
theorem applyBinary_ok_iff (f : α → α → β) (A B : Tensor α) (hA : Pos A.shape) (hB : Pos B.shape)
    (hAW : A.WF) (hBW : B.WF) (Y : Tensor β) :
    applyBinary f .multi A B = .ok Y ↔ Spec.binary f A B = some Y := by
  rw [applyBinary_dense f A B hA hB hAW hBW, ite_ok_eq_ok, Spec.binary, Option.ite_none_right_eq_some,
    Option.some.injEq]

/-! ### the theorems -/

-- the proof does not use `[Inhabited β]`, which the statement carries as a section variable
set_option linter.unusedSectionVars false in
theorem binary_ok_iff (f : α → α → β) (A B : Tensor α) :
    (applyBinary f .multi A B).isOk = Compatible A.shape B.shape := by
  rw [applyBinary_eq, isOk_ite_ok, Bool.decide_eq_true]

-- the proof does not use `[Inhabited β]`, which the statement carries as a section variable
set_option linter.unusedSectionVars false in
theorem binary_error (f : α → α → β) (A B : Tensor α) (h : Compatible A.shape B.shape = false) :
    applyBinary f .multi A B = .error .broadcast := by
  rw [applyBinary_eq, if_neg (by simp [h])]

/-- model = spec for the arithmetic / comparison path: a result is the table `Spec.binary` names -/
theorem binary_eq_spec (f : α → α → β) (A B : Tensor α) (hA : Pos A.shape) (hB : Pos B.shape)
    (hAW : A.WF) (hBW : B.WF) (t : Tensor β) (h : applyBinary f .multi A B = .ok t) :
    ∃ s, Spec.binary f A B = some s ∧ Equiv t s := by
  obtain ⟨hc, rfl⟩ := ite_ok_eq_ok.1 (applyBinary_dense f A B hA hB hAW hBW ▸ h)
  exact ⟨_, if_pos hc, Equiv.refl (ofFn_WF _ _)⟩

theorem boolean_ok_iff (f : α → α → α) (A B : Tensor α) :
    (applyBooleanOp f A B).isOk = Compatible A.shape B.shape := by
  rw [applyBooleanOp_eq, isOk_ite_ok, Bool.decide_eq_true]

/-- model = spec for the boolean coordinate-iterator path (And / Or / Xor) -/
theorem boolean_eq_spec (f : α → α → α) (A B : Tensor α) (hA : Pos A.shape) (hB : Pos B.shape)
    (hAW : A.WF) (hBW : B.WF) (t : Tensor α) (h : applyBooleanOp f A B = .ok t) :
    ∃ s, Spec.binary f A B = some s ∧ Equiv t s :=
  binary_eq_spec f A B hA hB hAW hBW t (applyBooleanOp_dense f A B hAW hBW ▸ h)

/-- fallible kernel (integer division): if the kernel is defined on every pair of broadcast
elements the result is the spec value; if the shapes are compatible and it is undefined somewhere
the operator reports an error (never a tensor) -/
theorem binaryM_eq_spec (f : α → α → Option β) (g : α → α → β) (A B : Tensor α) (hA : Pos A.shape) (hB : Pos B.shape)
    (hAW : A.WF) (hBW : B.WF) (hfg : ∀ a b, f a b = some (g a b)) (t : Tensor β)
    (h : applyBinaryM f A B = .ok t) :
    ∃ s, Spec.binary g A B = some s ∧ Equiv t s :=
  binary_eq_spec g A B hA hB hAW hBW t (applyBinaryM_total f g hfg A B ▸ h)

theorem binaryM_ok_of_total (f : α → α → Option β) (g : α → α → β) (A B : Tensor α)
    (hfg : ∀ a b, f a b = some (g a b)) :
    (applyBinaryM f A B).isOk = Compatible A.shape B.shape :=
  applyBinaryM_total f g hfg A B ▸ binary_ok_iff g A B

-- the proof does not use `[Inhabited β]`, which the statement carries as a section variable
set_option linter.unusedSectionVars false in
theorem binaryM_error_incompatible (f : α → α → Option β) (A B : Tensor α)
    (h : Compatible A.shape B.shape = false) : applyBinaryM f A B = .error .broadcast := by
  unfold applyBinaryM
  rw [multidir_error A B h]

/-! ### unidirectional -/

omit [Inhabited β] in
/-- the `.uni` path in closed form, whatever the operands: the kernel's own shape check cannot fail -/
theorem applyBinary_uni_eq (f : α → α → β) (X B : Tensor α) :
    applyBinary f .uni X B =
      if UniCompat X.shape B.shape then .ok ⟨X.shape, List.zipWith f X.data (stretch B X.shape).data⟩
      else .error .broadcast := by
  simp only [applyBinary, unidirBroadcast_eq]
  by_cases hc : UniCompat X.shape B.shape
  · simp only [if_pos hc, zipSame, if_pos (stretch_Is_of_uniCompat B hc).1.symm]
  · simp only [if_neg hc]

omit [Inhabited β] in
/-- on dense operands: the second operand is read through `pin` -/
theorem applyBinary_uni_dense (f : α → α → β) (X B : Tensor α) (hX : X.WF) (hB : B.WF) :
    applyBinary f .uni X B =
      if UniCompat X.shape B.shape then .ok (ofFn X.shape fun idx => f (X.get idx) (B.get (pin B.shape idx)))
      else .error .broadcast := by
  rw [applyBinary_uni_eq]
  split
  · next hc =>
    rw [zipWith_eq_ofFn f (Is_self X) (stretch_Is_of_uniCompat B hc) hX (stretch_WF B _ hB)]
  · rfl

omit [Inhabited β] in
theorem applyBinary_uni_isOk (f : α → α → β) (X B : Tensor α) :
    (applyBinary f .uni X B).isOk = true ↔ UniCompat X.shape B.shape := by
  rw [applyBinary_uni_eq, isOk_ite_ok, decide_eq_true_iff]

omit [Inhabited β] in
theorem applyBinary_uni_shape (f : α → α → β) {X B : Tensor α} {Y : Tensor β}
    (h : applyBinary f .uni X B = .ok Y) : Y.shape = X.shape := by
  obtain ⟨_, rfl⟩ := ite_ok_eq_ok.1 (applyBinary_uni_eq f X B ▸ h)
  rfl

omit [Inhabited β] in
theorem applyBinary_uni_error (f : α → α → β) (X B : Tensor α) (h : ¬ UniCompat X.shape B.shape) :
    applyBinary f .uni X B = .error .broadcast := by
  rw [applyBinary_uni_eq, if_neg h]

end Gonnx.Proofs
