import Gonnx.Ops.MatMul
import Gonnx.Spec.MatMul
import Gonnx.Proofs.Binary
/-
C04: MatMul, Gemm, LinearRegressor, Scaler and the batch odometer.
Every operator is computed as a table: `op args = .ok (ofFn shape entry)` on the inputs it accepts, with the
condition under which it refuses (`applyBinary_uni_dense`, `mm2_opT`, `gemmTail_ofFn`, `matmulOp_nf`); the spec is
brought to the same form (`gemm_spec_eq`, `spec_matmul_eq`). `xOp_spec` / `matmulOp_vs_spec` then say that the
operator returns the spec's tensor: two entry functions compared at one index (`ok_dense`).
-/
namespace Gonnx.C04
variable {α : Type}

/-- the guard the code forces on the vector / batched path: no operand matrix with a single element -/
def NoOneByOne (a b : Tensor α) : Prop :=
  (a.shape.length = 2 ∧ b.shape.length = 2) ∨
  (let sa := if a.shape.length = 1 then [1, dim a.shape 0] else a.shape
   let sb := if b.shape.length = 1 then [dim b.shape 0, 1] else b.shape
   dim sa (sa.length - 2) * dim sa (sa.length - 1) ≠ 1 ∧ dim sb (sb.length - 2) * dim sb (sb.length - 1) ≠ 1)

end Gonnx.C04

namespace Gonnx.Proofs.MatMul
open Gonnx Gonnx.Spec Gonnx.Proofs
variable {α : Type} [Inhabited α]

theorem map_get (f : α → α) (t : Tensor α) (h : t.WF) (idx : List Nat) (hi : InRange idx t.shape) :
    (t.map f).get idx = f (t.get idx) :=
  Tensor.get_map f h hi

/-! ### vectors broadcast along the last axis -/

theorem pin_vec (n : Nat) {idx s : List Nat} (hidx : InRange idx s) (hs : s ≠ []) :
    pin [n] idx = [if n = 1 then 0 else dim idx (s.length - 1)] := by
  have hl : idx.length - 1 < idx.length := by
    rw [InRange_length hidx]
    exact Nat.sub_one_lt (mt List.length_eq_zero_iff.1 hs)
  unfold pin
  simp only [List.length_cons, List.length_nil, Nat.zero_add]
  rw [List.drop_eq_getElem_cons hl, List.drop_of_length_le (by omega), ← InRange_length hidx, dim_of_lt hl]
  rfl

/-- the per-feature case: the position along the last axis selects the entry -/
theorem vecIdx_exact (n j : Nat) (hj : j < n) : (if n = 1 then 0 else j) = j := by
  split
  · omega
  · rfl

theorem pin_vec_exact (n : Nat) (idx s : List Nat) (hidx : InRange idx s) (hs : s ≠ [])
    (hn : dim s (s.length - 1) = n) : pin [n] idx = [dim idx (s.length - 1)] := by
  have hlt := (InRange_dim.1 hidx).2 (s.length - 1) (Nat.sub_one_lt (mt List.length_eq_zero_iff.1 hs))
  rw [pin_vec n hidx hs, vecIdx_exact _ _ (by rw [← hn]; exact hlt)]

theorem vec_get (v : List α) (i : Nat) : (⟨[v.length], v⟩ : Tensor α).get [i] = v.getD i default := by
  simp [Tensor.get, ravel]

theorem mat_get (p q : Nat) (d : List α) (i j : Nat) :
    (⟨[p, q], d⟩ : Tensor α).get [i, j] = d.getD (i * q + j) default := by
  simp [Tensor.get, ravel]

omit [Inhabited α] in
theorem vec_WF (v : List α) : (⟨[v.length], v⟩ : Tensor α).WF := by simp [Tensor.WF]

theorem vec_uniCompat (s : List Nat) (n : Nat) (hne : s ≠ [])
    (hv : n = dim s (s.length - 1) ∨ n = 1) : UniCompat s [n] := by
  refine (uniCompat_iff_dim s [n]).2 ⟨List.length_pos_iff.2 hne, fun j hj => ?_⟩
  obtain rfl : j = 0 := Nat.lt_one_iff.1 hj
  exact hv.imp Eq.symm id

theorem applyBinary_uni_vec (f : α → α → α) (X : Tensor α) (v : List α) (hXW : X.WF)
    (hne : X.shape ≠ []) (hv : v.length = dim X.shape (X.shape.length - 1) ∨ v.length = 1) :
    applyBinary f .uni X ⟨[v.length], v⟩ = .ok (ofFn X.shape fun idx =>
      f (X.get idx) (v.getD (if v.length = 1 then 0 else idx.getD (X.shape.length - 1) 0) default)) := by
  rw [applyBinary_uni_dense f X _ hXW (vec_WF v), if_pos (vec_uniCompat _ _ hne hv)]
  refine congrArg _ (ofFn_congr fun idx hidx => ?_)
  rw [pin_vec _ hidx hne, vec_get]
  rfl

/-! ### Scaler -/

theorem scalerOp_eq (A : Arith α) (off sc : List α) (x : Tensor α) :
    scalerOp A off sc x =
      applyBinary A.sub .uni x ⟨[off.length], off⟩ >>= fun x2 => applyBinary A.mul .uni x2 ⟨[sc.length], sc⟩ := by
  unfold scalerOp applyBinary
  cases unidirBroadcast x ⟨[off.length], off⟩ with
  | error e => rfl
  | ok v =>
    obtain ⟨x1, o⟩ := v
    show (match zipSame A.sub x1 o with | .error e => .error e | .ok x2 => _) = (zipSame A.sub x1 o >>= _)
    cases zipSame A.sub x1 o <;> rfl

theorem scalerOp_spec (A : Arith α) (off sc : List α) (x : Tensor α) (hW : x.WF)
    (s : Tensor α) (hs : Spec.scaler A off sc x = some s) : scalerOp A off sc x = .ok s ∧ s.WF := by
  obtain ⟨hc, hs⟩ := Option.ite_none_left_eq_some.1 hs
  cases hs
  simp only [not_or, Bool.not_eq_true', Bool.not_eq_false, decide_eq_true_eq] at hc
  refine ok_dense ((scalerOp_eq A off sc x).trans (bind_of_ok (applyBinary_uni_vec A.sub x off hW hc.1 hc.2.1)
    (applyBinary_uni_vec A.mul _ sc (ofFn_WF _ _) hc.1 hc.2.2))) fun idx hidx => ?_
  rw [get_ofFn _ _ _ hidx, ofFn_shape]

-- the proof does not use `hp`: `unidirBroadcast` never looks at the extents of `x`
set_option linter.unusedVariables false in
theorem scaler_eq_spec (A : Arith α) (off sc : List α) (x : Tensor α)
    (hW : x.WF) (hp : Pos x.shape) (s : Tensor α) (hs : Spec.scaler A off sc x = some s) :
    ∃ m, scalerOp A off sc x = .ok m ∧ Equiv m s :=
  equiv_of_ok (scalerOp_spec A off sc x hW s hs)

/-! ### matrix product, transpose -/

omit [Inhabited α] in
theorem sumRange_zero (A : Arith α) (f : Nat → α) : sumRange A 0 f = A.zero := rfl

omit [Inhabited α] in
theorem sumRange_succ (A : Arith α) (n : Nat) (f : Nat → α) :
    sumRange A (n + 1) f = A.add (sumRange A n f) (f n) := by
  simp [sumRange, List.range_succ, List.foldl_append]

omit [Inhabited α] in
theorem sumRange_congr (A : Arith α) (n : Nat) (f g : Nat → α) (h : ∀ l, l < n → f l = g l) :
    sumRange A n f = sumRange A n g := by
  induction n with
  | zero => rfl
  | succ n ih => rw [sumRange_succ, sumRange_succ, ih fun l hl => h l (Nat.lt_succ_of_lt hl), h n (Nat.lt_succ_self n)]

theorem mm2_eq (A : Arith α) (a b : Tensor α) (m k k' n : Nat) (ha : a.shape = [m, k]) (hb : b.shape = [k', n]) :
    mm2 A a b =
      if k = k' then .ok (ofFn [m, n] fun idx =>
        sumRange A k fun l => A.mul (a.get [idx.getD 0 0, l]) (b.get [l, idx.getD 1 0]))
      else .error .gorgonia := by
  unfold mm2
  rw [ha, hb]

theorem mm2_ok (A : Arith α) (a b : Tensor α) (m k n : Nat) (ha : a.shape = [m, k]) (hb : b.shape = [k, n]) :
    mm2 A a b = .ok (ofFn [m, n] fun idx =>
      sumRange A k fun l => A.mul (a.get [idx.getD 0 0, l]) (b.get [l, idx.getD 1 0])) :=
  (mm2_eq A a b m k k n ha hb).trans (if_pos rfl)

theorem mm2_inv (A : Arith α) (a b x : Tensor α) (h : mm2 A a b = .ok x) :
    ∃ m k n, a.shape = [m, k] ∧ b.shape = [k, n] := by
  unfold mm2 at h
  split at h
  · next m k k' n ha hb =>
    split at h
    · next hk => subst hk; exact ⟨m, k, n, ha, hb⟩
    · cases h
  · cases h

theorem mm2_rank (A : Arith α) (a b x : Tensor α) (h : mm2 A a b = .ok x) : x.shape.length = 2 := by
  obtain ⟨m, k, n, ha, hb⟩ := mm2_inv A a b x h
  rw [mm2_ok A a b m k n ha hb] at h
  cases h
  rfl

omit [Inhabited α] in
theorem InRange2 (i j m n : Nat) : InRange [i, j] [m, n] ↔ i < m ∧ j < n := by simp [InRange]

omit [Inhabited α] in
theorem Pos2 (m n : Nat) : Pos [m, n] ↔ 0 < m ∧ 0 < n := by simp [Pos]

theorem transpose2_get2 (a : Tensor α) (p q i j : Nat) (ha : a.shape = [p, q]) (hi : i < q) (hj : j < p) :
    (transpose2 a).get [i, j] = a.get [j, i] := by
  unfold transpose2
  rw [get_ofFn _ _ _ (by simp [ha, InRange, hi, hj])]
  simp

/-! `op(a)` is `a` or its transpose. Its extents `m`, `k` are variables: `a` has shape `[m, k]`, transposed `[k, m]`. -/

theorem opT_shape (t : Bool) (a : Tensor α) (m k : Nat) :
    (if t then transpose2 a else a).shape = [m, k] ↔ a.shape = if t then [k, m] else [m, k] := by
  cases t
  · exact Iff.rfl
  · simp [transpose2, List.reverse_eq_iff]

theorem opT_get (t : Bool) (a : Tensor α) (m k : Nat) (ha : a.shape = if t then [k, m] else [m, k]) (i l : Nat)
    (hi : i < m) (hl : l < k) :
    (if t then transpose2 a else a).get [i, l] = a.get (if t then [l, i] else [i, l]) := by
  cases t
  · rfl
  · exact transpose2_get2 a k m i l ha hi hl

/-- entry `[i, j]` of `op(a) · op(b)`, read from `a` and `b` themselves: `Σ_l op(a)[i, l] * op(b)[l, j]` -/
def opEntry (A : Arith α) (tA tB : Bool) (a b : Tensor α) (k i j : Nat) : α :=
  sumRange A k fun l => A.mul (a.get (if tA then [l, i] else [i, l])) (b.get (if tB then [j, l] else [l, j]))

theorem mm2_opT (A : Arith α) (tA tB : Bool) (a b : Tensor α) (m k k' n : Nat)
    (ha : a.shape = if tA then [k, m] else [m, k]) (hb : b.shape = if tB then [n, k'] else [k', n]) :
    mm2 A (if tA then transpose2 a else a) (if tB then transpose2 b else b) =
      if k = k' then .ok (ofFn [m, n] fun idx => opEntry A tA tB a b k (idx.getD 0 0) (idx.getD 1 0))
      else .error .gorgonia := by
  rw [mm2_eq A _ _ m k k' n ((opT_shape tA a m k).2 ha) ((opT_shape tB b k' n).2 hb)]
  refine ite_congr rfl (fun hk => congrArg _ (ofFn_congr fun idx hidx => ?_)) fun _ => rfl
  obtain ⟨_, h0, h1⟩ := InRange2_inv idx _ _ hidx
  exact sumRange_congr A k _ _ fun l hl => by
    rw [opT_get tA a m k ha _ _ h0 hl, opT_get tB b k' n hb _ _ (hk ▸ hl) h1]

/-- `x · wᵀ` (LinearRegressor, the recurrent gates) -/
theorem mm2_transB (A : Arith α) (x w : Tensor α) (m k n : Nat) (hx : x.shape = [m, k]) (hw : w.shape = [n, k]) :
    mm2 A x (transpose2 w) = .ok (ofFn [m, n] fun idx =>
      sumRange A k fun l => A.mul (x.get [idx.getD 0 0, l]) (w.get [idx.getD 1 0, l])) :=
  (mm2_opT A false true x w m k k n hx hw).trans (if_pos rfl)

/-! ### LinearRegressor -/

theorem linregOp_eq (A : Arith α) (coef icpt : List α) (targets : Nat) (x : Tensor α) :
    linregOp A coef icpt targets x =
      if targets = 0 then .error .panic
      else if targets * (coef.length / targets) ≠ coef.length then .error .shape
      else mm2 A x (transpose2 ⟨[targets, coef.length / targets], coef⟩) >>= fun r =>
        applyBinary A.add .uni r ⟨[icpt.length], icpt⟩ := by
  unfold linregOp
  refine ite_congr rfl (fun _ => rfl) fun _ => ite_congr rfl (fun _ => rfl) fun _ => ?_
  dsimp only
  cases mm2 A x (transpose2 ⟨[targets, coef.length / targets], coef⟩) <;> rfl

theorem linregOp_spec (A : Arith α) (coef icpt : List α) (targets : Nat) (x : Tensor α)
    (s : Tensor α) (hs : Spec.linreg A coef icpt targets x = some s) :
    linregOp A coef icpt targets x = .ok s ∧ s.WF := by
  unfold Spec.linreg at hs
  split at hs
  case h_2 => cases hs
  next n f hx =>
  obtain ⟨hc, hs⟩ := Option.ite_none_left_eq_some.1 hs
  cases hs
  simp only [not_or, Decidable.not_not] at hc
  obtain ⟨ht, hcl, hil⟩ := hc
  have hnf : coef.length / targets = f := by rw [hcl, Nat.mul_div_cancel_left _ (Nat.pos_of_ne_zero ht)]
  apply ok_dense
  · rw [linregOp_eq, if_neg ht, hnf, if_neg (Decidable.not_not.2 hcl.symm)]
    exact bind_of_ok (mm2_transB A x ⟨[targets, f], coef⟩ n f targets hx rfl)
      (applyBinary_uni_vec A.add _ icpt (ofFn_WF _ _) (List.cons_ne_nil _ _) (.inl hil))
  · intro idx hidx
    obtain ⟨_, h0, h1⟩ := InRange2_inv idx n targets hidx
    rw [get_ofFn _ _ _ hidx, hil]
    show A.add _ (icpt.getD (if targets = 1 then 0 else idx.getD 1 0) default) = _
    rw [vecIdx_exact _ _ h1]
    simp only [mat_get]

-- the proof does not use `hW`, `hp`: both sides read `x` at the same in-range positions
set_option linter.unusedVariables false in
theorem linreg_eq_spec (A : Arith α) (coef icpt : List α) (targets : Nat) (x : Tensor α)
    (hW : x.WF) (hp : Pos x.shape) (s : Tensor α) (hs : Spec.linreg A coef icpt targets x = some s) :
    ∃ m, linregOp A coef icpt targets x = .ok m ∧ Equiv m s :=
  equiv_of_ok (linregOp_spec A coef icpt targets x s hs)

/-! ### Gemm -/

def gemmTail (A : Arith α) (alpha beta : α) (x : Tensor α) (c : Option (Tensor α)) : Res (Tensor α) :=
  match c with
  | none => .ok (x.map fun v => A.mul v alpha)
  | some c => applyBinary A.add .uni (x.map fun v => A.mul v alpha) (c.map fun v => A.mul v beta)

theorem gemmOp_eq (A : Arith α) (alpha beta : α) (tA tB : Bool) (a b : Tensor α) (c : Option (Tensor α)) :
    gemmOp A alpha beta tA tB a b c =
      mm2 A (if tA then transpose2 a else a) (if tB then transpose2 b else b) >>= fun x =>
        gemmTail A alpha beta x c := by
  unfold gemmOp gemmTail applyBinary
  dsimp only
  cases mm2 A (if tA then transpose2 a else a) (if tB then transpose2 b else b) <;> rfl

/-- the guard ONNX puts on `C` -/
def cOk (m n : Nat) (c : Option (Tensor α)) : Bool :=
  match c with
  | none => true
  | some c => Compatible [m, n] c.shape && bshape [m, n] c.shape == [m, n]

def addC (A : Arith α) (beta : α) (c : Option (Tensor α)) (p : α) (idx : List Nat) : α :=
  match c with
  | none => p
  | some c => A.add p (A.mul (c.get (pin c.shape idx)) beta)

omit [Inhabited α] in
/-- for positive extents ONNX's guard is the model's: `C` broadcasts unidirectionally to the product -/
theorem cOk_iff (m n : Nat) (hm : 0 < m) (hn : 0 < n) (c : Option (Tensor α)) (hpc : ∀ t, c = some t → Pos t.shape) :
    cOk m n c = true ↔ ∀ t, c = some t → UniCompat [m, n] t.shape := by
  cases c with
  | none => exact ⟨nofun, fun _ => rfl⟩
  | some t => simp [cOk, uniCompat_iff _ _ ((Pos2 m n).2 ⟨hm, hn⟩) (hpc t rfl)]

/-- `gemmTail` answers only if `C` broadcasts to the product; neither operand need be dense -/
theorem gemmTail_inv (A : Arith α) (alpha beta : α) (x r : Tensor α) (c : Option (Tensor α))
    (h : gemmTail A alpha beta x c = .ok r) : ∀ t, c = some t → UniCompat x.shape t.shape := by
  rintro t rfl
  exact (applyBinary_uni_isOk A.add (x.map _) (t.map _)).1 (congrArg Res.isOk h)

/-- on a table, with a dense `C` that broadcasts to it -/
theorem gemmTail_some (A : Arith α) (alpha beta : α) (s : List Nat) (F : List Nat → α) (t : Tensor α)
    (hW : t.WF) (hu : UniCompat s t.shape) :
    gemmTail A alpha beta (ofFn s F) (some t) = .ok (ofFn s fun idx =>
      A.add (A.mul (F idx) alpha) (A.mul (t.get (pin t.shape idx)) beta)) := by
  show applyBinary A.add .uni _ _ = _
  rw [map_ofFn, applyBinary_uni_dense A.add _ _ (ofFn_WF _ _) (Tensor.map_WF _ hW),
    if_pos (show UniCompat (ofFn s _).shape (t.map _).shape from hu)]
  refine congrArg _ (ofFn_congr (s := s) fun idx hidx => ?_)
  rw [get_ofFn _ _ _ hidx]
  exact congrArg _ (Tensor.get_map _ hW (InRange_pin hu hidx))

theorem gemmTail_ofFn (A : Arith α) (alpha beta : α) (s : List Nat) (F : List Nat → α) (c : Option (Tensor α))
    (hW : ∀ t, c = some t → t.WF) (hu : ∀ t, c = some t → UniCompat s t.shape) :
    gemmTail A alpha beta (ofFn s F) c = .ok (ofFn s fun idx => addC A beta c (A.mul (F idx) alpha) idx) := by
  cases c with
  | none => exact congrArg Except.ok (map_ofFn _ _ _)
  | some t => exact gemmTail_some A alpha beta s F t (hW t rfl) (hu t rfl)

theorem gemm_spec_eq (A : Arith α) (alpha beta : α) (tA tB : Bool) (a b : Tensor α) (c : Option (Tensor α))
    (m k k' n : Nat) (ha : a.shape = if tA then [k, m] else [m, k]) (hb : b.shape = if tB then [n, k'] else [k', n]) :
    Spec.gemm A alpha beta tA tB a b c =
      if k ≠ k' ∨ !cOk m n c then none
      else some (ofFn [m, n] fun idx =>
        addC A beta c (A.mul (opEntry A tA tB a b k (idx.getD 0 0) (idx.getD 1 0)) alpha) idx) := by
  unfold Spec.gemm
  rw [ha, hb]
  cases tA <;> cases tB <;> rfl

/-- neither side accepts anything but two matrices -/
theorem gemm_shapes (A : Arith α) (alpha beta : α) (tA tB : Bool) (a b : Tensor α) (c : Option (Tensor α))
    (h : (∃ s, Spec.gemm A alpha beta tA tB a b c = some s) ∨ ∃ r, gemmOp A alpha beta tA tB a b c = .ok r) :
    ∃ m k k' n, (a.shape = if tA then [k, m] else [m, k]) ∧ (b.shape = if tB then [n, k'] else [k', n]) := by
  rcases h with ⟨s, h⟩ | ⟨r, h⟩
  · unfold Spec.gemm at h
    split at h
    · next a0 a1 b0 b1 ha hb =>
      refine ⟨if tA then a1 else a0, if tA then a0 else a1, if tB then b1 else b0, if tB then b0 else b1, ?_, ?_⟩
      · cases tA <;> exact ha
      · cases tB <;> exact hb
    · cases h
  · rw [gemmOp_eq] at h
    obtain ⟨x, hmm, _⟩ := bind_eq_ok.1 h
    obtain ⟨m, k, n, sa, sb⟩ := mm2_inv A _ _ x hmm
    exact ⟨m, k, k, n, (opT_shape tA a m k).1 sa, (opT_shape tB b k n).1 sb⟩

omit [Inhabited α] in
theorem opT_pos (t : Bool) (a : Tensor α) (m k : Nat) (ha : a.shape = if t then [k, m] else [m, k])
    (hp : Pos a.shape) : 0 < m ∧ 0 < k := by
  rw [ha] at hp
  cases t
  · exact (Pos2 m k).1 hp
  · exact ((Pos2 k m).1 hp).symm

theorem gemmOp_spec (A : Arith α) (alpha beta : α) (tA tB : Bool) (a b : Tensor α) (c : Option (Tensor α))
    (hWc : ∀ t, c = some t → t.WF)
    (hpa : Pos a.shape) (hpb : Pos b.shape) (hpc : ∀ t, c = some t → Pos t.shape)
    (s : Tensor α) (hs : Spec.gemm A alpha beta tA tB a b c = some s) :
    gemmOp A alpha beta tA tB a b c = .ok s ∧ s.WF := by
  obtain ⟨m, k, k', n, ha, hb⟩ := gemm_shapes A alpha beta tA tB a b c (.inl ⟨s, hs⟩)
  rw [gemm_spec_eq A alpha beta tA tB a b c m k k' n ha hb] at hs
  obtain ⟨hc, hs⟩ := Option.ite_none_left_eq_some.1 hs
  cases hs
  simp only [not_or, Decidable.not_not, Bool.not_eq_true, Bool.not_eq_false'] at hc
  refine ⟨?_, ofFn_WF _ _⟩
  rw [gemmOp_eq, mm2_opT A tA tB a b m k k' n ha hb, if_pos hc.1]
  exact gemmTail_ofFn A alpha beta _ _ c hWc
    ((cOk_iff m n (opT_pos tA a m k ha hpa).1 (opT_pos tB b k' n hb hpb).2 c hpc).1 hc.2)

-- the proof does not use `hWa`, `hWb`: both sides read `a`, `b` at the same in-range positions
set_option linter.unusedVariables false in
theorem gemm_eq_spec (A : Arith α) (alpha beta : α) (tA tB : Bool) (a b : Tensor α) (c : Option (Tensor α))
    (hWa : a.WF) (hWb : b.WF) (hWc : ∀ t, c = some t → t.WF)
    (hpa : Pos a.shape) (hpb : Pos b.shape) (hpc : ∀ t, c = some t → Pos t.shape)
    (s : Tensor α) (hs : Spec.gemm A alpha beta tA tB a b c = some s) :
    ∃ m, gemmOp A alpha beta tA tB a b c = .ok m ∧ Equiv m s :=
  equiv_of_ok (gemmOp_spec A alpha beta tA tB a b c hWc hpa hpb hpc s hs)

theorem gemm_refuses (A : Arith α) (alpha beta : α) (tA tB : Bool) (a b : Tensor α) (c : Option (Tensor α))
    (hpa : Pos a.shape) (hpb : Pos b.shape) (hpc : ∀ t, c = some t → Pos t.shape)
    (hs : Spec.gemm A alpha beta tA tB a b c = none) :
    ∀ m, gemmOp A alpha beta tA tB a b c ≠ .ok m := by
  intro r hr
  obtain ⟨m, k, k', n, ha, hb⟩ := gemm_shapes A alpha beta tA tB a b c (.inr ⟨r, hr⟩)
  rw [gemmOp_eq, mm2_opT A tA tB a b m k k' n ha hb] at hr
  split at hr
  case isFalse => cases hr
  next hk =>
  have hc := (cOk_iff m n (opT_pos tA a m k ha hpa).1 (opT_pos tB b k' n hb hpb).2 c hpc).2
    (gemmTail_inv A alpha beta _ r c hr)
  rw [gemm_spec_eq A alpha beta tA tB a b c m k k' n ha hb, if_neg (by simp [hk, hc])] at hs
  cases hs

/-! ### the batch odometer -/

theorem zeros_InRange (s : List Nat) (h : Pos s) : InRange (List.replicate s.length 0) s :=
  InRange_dim.2 ⟨List.length_replicate, fun j hj => by rw [dim_replicate, if_pos hj]; exact Pos_dim h hj⟩

theorem ravel_zeros (s : List Nat) : ravel s (List.replicate s.length 0) = 0 := by
  induction s with
  | nil => rfl
  | cons n s ih => simp [List.replicate_succ, ravel, ih]

/-- `prod (s.drop (i + 1))` is the weight of digit `i` in the offset: the digit to its left weighs `dim s i` times
as much -/
theorem prod_drop (s : List Nat) (i : Nat) (h : i < s.length) :
    prod (s.drop i) = dim s i * prod (s.drop (i + 1)) := by
  rw [List.drop_eq_getElem_cons h, dim_of_lt h]; rfl

/-- the offset is linear in each digit -/
theorem ravel_set_add (s cur : List Nat) (i v w : Nat) (hl : cur.length = s.length) (hi : i < s.length) :
    ravel s (cur.set i (v + w)) = ravel s (cur.set i v) + w * prod (s.drop (i + 1)) := by
  induction s generalizing cur i with
  | nil => cases hi
  | cons n s ih =>
    cases cur with
    | nil => cases hl
    | cons c cur =>
      cases i with
      | zero =>
        show (v + w) * prod s + ravel s cur = v * prod s + ravel s cur + w * prod s
        rw [Nat.add_mul, Nat.add_right_comm]
      | succ i =>
        show c * prod s + ravel s (cur.set i (v + w)) = c * prod s + ravel s (cur.set i v) + w * prod (s.drop (i + 1))
        rw [ih cur i (Nat.succ.inj hl) (Nat.lt_of_succ_lt_succ hi), Nat.add_assoc]

/-- converse of `allIdx_ravel` -/
theorem getElem?_allIdx {s idx : List Nat} {k : Nat} (h : (allIdx s)[k]? = some idx) :
    InRange idx s ∧ ravel s idx = k := by
  obtain ⟨hk, rfl⟩ := List.getElem?_eq_some_iff.1 h
  refine ⟨mem_allIdx.1 (List.getElem_mem hk), ?_⟩
  have := List.getElem_of_eq (map_ravel_allIdx s) (i := k) (by simpa using hk)
  simpa using this

/-- the carry loop entered at digit `i` moves on, in row-major order, by the weight of that digit (`none`: past the
last index) -/
theorem go_eq (shape : List Nat) (fuel i : Nat) (cur : List Nat) (h : InRange cur shape)
    (hi : i < shape.length) (hf : i < fuel) :
    incrementSlices.go shape i fuel cur = (allIdx shape)[ravel shape cur + prod (shape.drop (i + 1))]? := by
  induction fuel generalizing i cur with
  | zero => cases hf
  | succ f ih =>
    have hl := InRange_length h
    have hset (v : Nat) (hv : v < dim shape i) : InRange (cur.set i v) shape :=
      InRange_set shape cur i v (by rwa [set_dim_self]) hv
    have inc : ravel shape (cur.set i (dim cur i + 1)) = _ := ravel_set_add shape cur i (dim cur i) 1 hl hi
    have rst : ravel shape (cur.set i (0 + dim cur i)) = _ := ravel_set_add shape cur i 0 (dim cur i) hl hi
    rw [set_dim_self, Nat.one_mul] at inc
    rw [Nat.zero_add, set_dim_self] at rst
    rw [incrementSlices.go, show cur.getD i 0 = dim cur i from rfl]
    by_cases hd : dim shape i = dim cur i + 1
    · -- the digit is at its maximum: what its reset takes off (`rst`) and its weight make up the weight of the
      -- digit to the left (`hw`)
      have hw := prod_drop shape i hi
      rw [hd, Nat.succ_mul] at hw
      rw [if_pos hd]
      cases i with
      | zero =>
        rw [List.drop_zero] at hw
        rw [if_pos rfl, eq_comm, List.getElem?_eq_none_iff, allIdx_length, hw, rst]
        exact Nat.add_le_add_right (Nat.le_add_left _ _) _
      | succ i =>
        rw [if_neg (Nat.succ_ne_zero i), Nat.add_sub_cancel, ih i (cur.set (i + 1) 0) (hset 0 (hd ▸ Nat.succ_pos _))
          (Nat.lt_of_succ_lt hi) (Nat.lt_of_succ_lt_succ hf), hw, rst, Nat.add_assoc (ravel _ _)]
    · rw [if_neg hd, ← inc]
      exact (allIdx_ravel _ _ (hset _ (Nat.lt_of_le_of_ne ((InRange_dim.1 h).2 i hi) (Ne.symm hd)))).symm

theorem incrementSlices_eq (shape cur : List Nat) (h : InRange cur shape) :
    incrementSlices shape cur = (allIdx shape)[ravel shape cur + 1]? := by
  unfold incrementSlices
  split
  · next h0 =>
    obtain rfl := List.length_eq_zero_iff.1 h0
    rfl
  · next h0 =>
    have hi := Nat.sub_one_lt h0
    rw [go_eq shape _ _ cur h hi hi, Nat.sub_add_cancel (Nat.pos_of_ne_zero h0), List.drop_length]
    rfl

theorem run_eq (shape : List Nat) (fuel : Nat) (cur : List Nat) (h : InRange cur shape)
    (hf : prod shape ≤ fuel + ravel shape cur) :
    odometer.run shape fuel cur = (allIdx shape).drop (ravel shape cur) := by
  induction fuel generalizing cur with
  | zero => have := ravel_lt _ _ h; omega
  | succ f ih =>
    rw [odometer.run, incrementSlices_eq shape cur h, List.drop_eq_getElem?_toList_append, allIdx_ravel _ _ h]
    congr 1
    cases hn : (allIdx shape)[ravel shape cur + 1]? with
    | none => exact (List.drop_of_length_le (List.getElem?_eq_none_iff.1 hn)).symm
    | some nxt =>
      obtain ⟨hin, hr⟩ := getElem?_allIdx hn
      rw [← hr]
      exact ih nxt hin (by omega)

theorem odometer_enumerates (shape : List Nat) (hpos : Pos shape) : odometer shape = allIdx shape := by
  unfold odometer
  rw [run_eq shape _ _ (zeros_InRange shape hpos) (by omega), ravel_zeros]
  rfl

/-! ### shapes split into batch and matrix axes -/

theorem exists_snoc2 (s : List Nat) (h : 2 ≤ s.length) : ∃ bs x y, s = bs ++ [x, y] := by
  obtain rfl | ⟨l, y, rfl⟩ := s.eq_nil_or_concat
  · cases h
  obtain rfl | ⟨bs, x, rfl⟩ := l.eq_nil_or_concat
  · exact absurd h (Nat.not_succ_le_self 1)
  exact ⟨bs, x, y, by simp⟩

/-- the last two axes of `l ++ [x, y]`, as model and spec address them -/
theorem snoc2_getD (l : List Nat) (n x y : Nat) (h : l.length = n) :
    (l ++ [x, y]).getD n 0 = x ∧ (l ++ [x, y]).getD (n + 1) 0 = y := by
  subst h
  rw [List.getD_eq_getElem?_getD, List.getD_eq_getElem?_getD, List.getElem?_append_right (Nat.le_refl _),
    List.getElem?_append_right (Nat.le_succ _), Nat.sub_self, Nat.succ_sub (Nat.le_refl _), Nat.sub_self]
  exact ⟨rfl, rfl⟩

theorem snoc2_dim (l : List Nat) (n x y : Nat) (h : l.length = n) :
    dim (l ++ [x, y]) n = x ∧ dim (l ++ [x, y]) (n + 1) = y :=
  snoc2_getD l n x y h

theorem snoc2_len (bs : List Nat) (x y : Nat) :
    (bs ++ [x, y]).length - 2 = bs.length ∧ (bs ++ [x, y]).length - 1 = bs.length + 1 := by
  simp

/-- a shape of rank 1 is replaced by the two-axis shape `[x0, y0]` (`[1, d]` for the left operand, `[d, 1]` for the
right one); the result splits into batch axes and two matrix axes -/
theorem promote_split (s : List Nat) (x0 y0 : Nat) (h0 : s.length ≠ 0) (hp : Pos s) :
    ∃ bs x y, (if s.length = 1 then [x0, y0] else s) = bs ++ [x, y] ∧ (s.length = 1 → x = x0 ∧ y = y0) ∧ Pos bs ∧
      (s.length = 2 → bs = []) := by
  by_cases h1 : s.length = 1
  · exact ⟨[], x0, y0, by rw [if_pos h1]; rfl, fun _ => ⟨rfl, rfl⟩, (fun _ h => nomatch h), fun _ => rfl⟩
  · obtain ⟨bs, x, y, rfl⟩ := exists_snoc2 s (by omega)
    exact ⟨bs, x, y, if_neg h1, fun h => absurd h h1, fun n hn => hp n (List.mem_append_left _ hn),
      fun h2 => List.length_eq_zero_iff.1 (by simpa using h2)⟩

/-! ### the spec over split shapes -/

/-- entry `[bi, i, j]` of the batched product: the dot product of row `i` and column `j` of the matrices that
batch index `bi` selects (stretched batch axes pinned to 0) -/
def entry (A : Arith α) (ba bb : List Nat) (k : Nat) (a' b' : Tensor α) (bi : List Nat) (i j : Nat) : α :=
  sumRange A k fun l => A.mul (a'.get (pin ba bi ++ [i, l])) (b'.get (pin bb bi ++ [l, j]))

/-- the tensor numpy.matmul prescribes, over split shapes: the promoted axes are absent from the shape and
read at position 0 -/
def specOut (A : Arith α) (pre app : Prop) [Decidable pre] [Decidable app] (ba bb : List Nat) (m k n : Nat)
    (a' b' : Tensor α) : Tensor α :=
  ofFn (bshape ba bb ++ (if pre then [] else [m]) ++ (if app then [] else [n])) fun idx =>
    entry A ba bb k a' b' (idx.take (bshape ba bb).length)
      (if pre then 0 else (idx.drop (bshape ba bb).length).getD 0 0)
      (if app then 0 else (idx.drop (bshape ba bb).length).getD (if pre then 0 else 1) 0)

theorem spec_matmul_eq (A : Arith α) (a b : Tensor α) (ba bb : List Nat) (m k k' n : Nat)
    (h0 : ¬ (a.shape.length = 0 ∨ b.shape.length = 0))
    (hsa : (if a.shape.length = 1 then [1, dim a.shape 0] else a.shape) = ba ++ [m, k])
    (hsb : (if b.shape.length = 1 then [dim b.shape 0, 1] else b.shape) = bb ++ [k', n]) :
    Spec.matmul A a b =
      if k ≠ k' ∨ (!Compatible ba bb) = true then none
      else some (specOut A (a.shape.length = 1) (b.shape.length = 1) ba bb m k n
        ⟨ba ++ [m, k], a.data⟩ ⟨bb ++ [k', n], b.data⟩) := by
  unfold Spec.matmul specOut entry
  rw [if_neg h0]
  simp only [hsa, hsb, snoc2_len, snoc2_dim _ _ _ _ rfl, List.take_left']

/-! ### the batch broadcast -/

/-- `broadcastBatch` in closed form: the batch axes are broadcast like whole shapes, the matrix axes left alone -/
theorem broadcastBatch_eq (ba bb ta tb : List Nat) (da db : List α) (hta : ta.length = 2) (htb : tb.length = 2) :
    broadcastBatch (⟨ba ++ ta, da⟩ : Tensor α) ⟨bb ++ tb, db⟩ =
      if Compatible ba bb = true then
        .ok (stretchLead (max ba.length bb.length) ⟨ba ++ ta, da⟩ (bb ++ tb),
          stretchLead (max ba.length bb.length) ⟨bb ++ tb, db⟩ (ba ++ ta))
      else .error .broadcast := by
  have e : max (ba ++ ta).length (bb ++ tb).length = max ba.length bb.length + 2 := by
    rw [List.length_append, List.length_append, hta, htb, Nat.add_max_add_right]
  have ea := padShape_append (max ba.length bb.length) ba ta
  have eb := padShape_append (max ba.length bb.length) bb tb
  rw [hta] at ea
  rw [htb] at eb
  have hr : (addExtraDims (⟨ba ++ ta, da⟩ : Tensor α)
      (max (ba ++ ta).length (bb ++ tb).length - (ba ++ ta).length)).rank - 2 = max ba.length bb.length := by
    rw [Tensor.rank, show (addExtraDims _ _).shape.length = _ from length_padShape_left _ _, e, Nat.add_sub_cancel]
  unfold broadcastBatch
  rw [reshapeForMultidir_eq]
  refine (repeatMulti_reshaped_eq _ (⟨ba ++ ta, da⟩ : Tensor α) ⟨bb ++ tb, db⟩).trans ?_
  dsimp only
  rw [hr]
  simp +contextual only [e, ea, eb, compatible_iff, dim_append, length_padShape_left, length_padShape_right, if_true]

/-! ### the batched product -/

theorem InRange_snoc2 {bi s : List Nat} {i j m n : Nat} (h : InRange bi s) (hi : i < m) (hj : j < n) :
    InRange (bi ++ [i, j]) (s ++ [m, n]) :=
  (InRange_append _ _ _ _ (InRange_length h)).2 ⟨h, (InRange2 _ _ _ _).2 ⟨hi, hj⟩⟩

/-- an index of `bs ++ [m, n]` is a batch index followed by a row and a column -/
theorem InRange_snoc2_inv {idx bs : List Nat} {m n : Nat} (h : InRange idx (bs ++ [m, n])) :
    InRange (idx.take bs.length) bs ∧ idx.getD bs.length 0 < m ∧ idx.getD (bs.length + 1) 0 < n := by
  have hd := (InRange_dim.1 h).2
  have e := snoc2_dim bs bs.length m n rfl
  exact ⟨(InRange_split _ _ _ h).1, e.1 ▸ hd bs.length (by simp), e.2 ▸ hd (bs.length + 1) (by simp)⟩

/-- the batched product as a table. The operands `a2`, `b2` are read through `gA`, `gB`: at a batch index `bi`
followed by a matrix index they hold what `a'`, `b'` hold at `pin ba bi`, `pin bb bi` (for the two results of
`broadcastBatch` this is `stretchLead_batch`). -/
theorem batched_eq (A : Arith α) (a2 b2 a' b' : Tensor α) (ba bb bs : List Nat) (m k k' n : Nat)
    (sA : a2.shape = bs ++ [m, k]) (sB : b2.shape = bs ++ [k', n])
    (gA : ∀ bi x, bi.length = bs.length → InRange (bi ++ x) (bs ++ [m, k]) →
      a2.get (bi ++ x) = a'.get (pin ba bi ++ x))
    (gB : ∀ bi x, bi.length = bs.length → InRange (bi ++ x) (bs ++ [k', n]) →
      b2.get (bi ++ x) = b'.get (pin bb bi ++ x)) :
    batchedMatMul A a2 b2 =
      if m * k = 1 ∨ k' * n = 1 then .error .gorgonia
      else if k ≠ k' then .error .gorgonia
      else .ok (ofFn (bs ++ [m, n]) fun idx =>
        entry A ba bb k a' b' (idx.take bs.length) (idx.getD bs.length 0) (idx.getD (bs.length + 1) 0)) := by
  unfold batchedMatMul
  simp only [sA, sB, snoc2_len, snoc2_dim _ _ _ _ rfl, List.take_left', ne_eq, not_true_eq_false, if_false]
  by_cases hk : k = k'
  · -- behind the guards: the two tables agree entry by entry
    subst hk
    refine congrArg _ (congrArg _ (congrArg _ (ofFn_congr fun idx hidx => ?_)))
    obtain ⟨hbi, hi, hj⟩ := InRange_snoc2_inv hidx
    have hl := InRange_length hbi
    exact sumRange_congr _ _ _ _ fun l hl' => by
      rw [gA _ _ hl (InRange_snoc2 hbi hi hl'), gB _ _ hl (InRange_snoc2 hbi hl' hj)]
  · rw [if_pos hk, if_pos hk]

/-! ### removing the promoted axes -/

/-- dropping a promoted (extent-1) matrix axis changes neither the element count nor any offset -/
theorem tail_index (m n : Nat) (pre app : Prop) [Decidable pre] [Decidable app] (hm : pre → m = 1)
    (hn : app → n = 1) :
    prod ((if pre then [] else [m]) ++ (if app then [] else [n])) = prod [m, n] ∧
    ∀ rest, InRange rest ((if pre then [] else [m]) ++ (if app then [] else [n])) →
      InRange [if pre then 0 else rest.getD 0 0, if app then 0 else rest.getD (if pre then 0 else 1) 0] [m, n] ∧
      ravel ((if pre then [] else [m]) ++ (if app then [] else [n])) rest =
        ravel [m, n] [if pre then 0 else rest.getD 0 0, if app then 0 else rest.getD (if pre then 0 else 1) 0] := by
  by_cases hp : pre <;> by_cases hq : app
  · have := hm hp; have := hn hq; subst m n
    simp only [hp, hq, if_true, List.append_nil]
    exact ⟨by simp, fun rest h => match rest, h with | [], _ => by simp [InRange, ravel]⟩
  · have := hm hp; subst m
    simp only [hp, hq, if_true, if_false, List.nil_append]
    exact ⟨by simp, fun rest h => match rest, h with | [j], h => by simp only [InRange] at h; simp [InRange, ravel, h.1]⟩
  · have := hn hq; subst n
    simp only [hp, hq, if_true, if_false, List.append_nil]
    exact ⟨by simp, fun rest h => match rest, h with | [i], h => by simp only [InRange] at h; simp [InRange, ravel, h.1]⟩
  · simp only [hp, hq, if_false, List.cons_append, List.nil_append]
    exact ⟨by simp, fun rest h => match rest, h with | [i, j], h => by simp only [InRange] at h; simp [InRange, h.1, h.2.1]⟩

/-- the model's removal of the axes added for rank-1 operands -/
def squeeze (pre app : Prop) [Decidable pre] [Decidable app] (out : Tensor α) : Tensor α :=
  let out1 : Tensor α := if pre then { out with shape := out.shape.eraseIdx (out.shape.length - 2) } else out
  if app then { out1 with shape := out1.shape.dropLast } else out1

omit [Inhabited α] in
theorem squeeze_eq (pre app : Prop) [Decidable pre] [Decidable app] (out : Tensor α) (bs : List Nat) (m n : Nat)
    (ho : out.shape = bs ++ [m, n]) :
    squeeze pre app out = ⟨bs ++ (if pre then [] else [m]) ++ (if app then [] else [n]), out.data⟩ := by
  obtain ⟨os, od⟩ := out
  simp only at ho
  subst ho
  unfold squeeze
  have e1 : (bs ++ [m, n]).eraseIdx bs.length = bs ++ [n] := by
    rw [List.eraseIdx_append_of_length_le (by simp)]
    simp
  have e2 : (bs ++ [n]).dropLast = bs := by simp
  have e3 : (bs ++ [m, n]).dropLast = bs ++ [m] := by
    rw [show bs ++ [m, n] = (bs ++ [m]) ++ [n] by simp]; exact List.dropLast_concat
  by_cases hp : pre <;> by_cases hq : app <;> simp [hp, hq, e1, e2, e3]

theorem squeeze_ofFn (pre app : Prop) [Decidable pre] [Decidable app] (bs : List Nat) (m n : Nat)
    (hm : pre → m = 1) (hn : app → n = 1) (E : List Nat → Nat → Nat → α) :
    squeeze pre app (ofFn (bs ++ [m, n]) fun idx =>
        E (idx.take bs.length) (idx.getD bs.length 0) (idx.getD (bs.length + 1) 0)) =
      ofFn (bs ++ (if pre then [] else [m]) ++ (if app then [] else [n])) fun idx =>
        E (idx.take bs.length) (if pre then 0 else (idx.drop bs.length).getD 0 0)
          (if app then 0 else (idx.drop bs.length).getD (if pre then 0 else 1) 0) := by
  obtain ⟨tp, ti⟩ := tail_index m n pre app hm hn
  have split (idx : List Nat)
      (hidx : InRange idx (bs ++ (if pre then [] else [m]) ++ (if app then [] else [n]))) :=
    InRange_split idx bs _ (List.append_assoc .. ▸ hidx)
  rw [squeeze_eq _ _ _ bs m n rfl]
  refine (reshape_eq_ofFn _ (ofFn_WF _ _) _ ?_ (fun idx => idx.take bs.length ++
    [if pre then 0 else (idx.drop bs.length).getD 0 0,
      if app then 0 else (idx.drop bs.length).getD (if pre then 0 else 1) 0]) fun idx hidx => ?_).trans
    (ofFn_congr fun idx hidx => ?_)
  · rw [ofFn_shape, List.append_assoc, prod_append bs (_ ++ _), tp, prod_append]
  · obtain ⟨h1, h2⟩ := split idx hidx
    have hl := InRange_length h1
    rw [ofFn_shape, ravel_append _ _ _ _ hl, ← (ti _ h2).2, ← tp, List.append_assoc, ← ravel_append _ _ _ _ hl,
      List.take_append_drop]
  · obtain ⟨h1, h2⟩ := split idx hidx
    have hl := InRange_length h1
    rw [get_ofFn _ _ _ ((InRange_append _ _ _ _ hl).2 ⟨h1, (ti _ h2).1⟩), List.take_left' hl,
      (snoc2_getD _ _ _ _ hl).1, (snoc2_getD _ _ _ _ hl).2]

/-! ### the model over split shapes -/

/-- when the model answers, and what: the tensor numpy.matmul prescribes, unless an operand matrix on the
batched path has a single element -/
theorem matmulOp_nf (A : Arith α) (a b : Tensor α) (ba bb : List Nat) (m k k' n : Nat)
    (h0 : ¬ (a.shape.length = 0 ∨ b.shape.length = 0))
    (hsa : (if a.shape.length = 1 then [1, dim a.shape 0] else a.shape) = ba ++ [m, k])
    (hsb : (if b.shape.length = 1 then [dim b.shape 0, 1] else b.shape) = bb ++ [k', n])
    (hm : a.shape.length = 1 → m = 1) (hn : b.shape.length = 1 → n = 1) (hpa : Pos ba) (hpb : Pos bb)
    (h2a : a.shape.length = 2 → ba = []) (h2b : b.shape.length = 2 → bb = []) :
    matmulOp A a b =
      if Compatible ba bb = true ∧ k = k' ∧
          ((a.shape.length = 2 ∧ b.shape.length = 2) ∨ (m * k ≠ 1 ∧ k' * n ≠ 1)) then
        .ok (specOut A (a.shape.length = 1) (b.shape.length = 1) ba bb m k n
          ⟨ba ++ [m, k], a.data⟩ ⟨bb ++ [k', n], b.data⟩)
      else .error (if Compatible ba bb = true then .gorgonia else .broadcast) := by
  by_cases h22 : a.shape.length = 2 ∧ b.shape.length = 2
  · -- two matrices: `tensor.MatMul` directly, and its table is `specOut` at the empty batch shape
    obtain rfl := h2a h22.1
    obtain rfl := h2b h22.2
    rw [if_neg (by omega)] at hsa hsb
    obtain ⟨sa, da⟩ := a
    obtain ⟨sb, db⟩ := b
    dsimp only at hsa hsb
    subst hsa hsb
    unfold matmulOp
    rw [if_pos h22]
    by_cases hk : k = k'
    · subst hk
      rw [if_pos ⟨by decide, rfl, .inl h22⟩, mm2_ok A _ _ m k n rfl rfl]
      rfl
    · rw [if_neg (fun h => hk h.2.1), if_pos (by decide)]
      exact if_neg hk
  · -- the other path, line by line: promotion, `broadcastBatch`, `batchedMatMul`, removal of the promoted axes
    have promoted (c : Prop) [Decidable c] (t : Tensor α) (s : List Nat) :
        (if c then { t with shape := s } else t) = (⟨if c then s else t.shape, t.data⟩ : Tensor α) := by
      split <;> rfl
    unfold matmulOp
    rw [if_neg h22, if_neg h0]
    dsimp only
    rw [promoted, promoted, hsa, hsb, broadcastBatch_eq ba bb [m, k] [k', n] a.data b.data rfl rfl]
    by_cases hc : Compatible ba bb = true
    · obtain ⟨sA, gA⟩ := stretchLead_batch ba bb [m, k] [k', n] a.data rfl hpa hpb hc
      obtain ⟨sB, gB⟩ := stretchLead_batch bb ba [k', n] [m, k] b.data rfl hpb hpa (compatible_comm _ _ ▸ hc)
      rw [Nat.max_comm, bshape_comm] at sB gB
      rw [if_pos hc, if_pos hc]
      dsimp only
      rw [batched_eq A _ _ _ _ ba bb _ m k k' n sA sB gA gB]
      by_cases h1 : m * k = 1 ∨ k' * n = 1
      · rw [if_pos h1, if_neg (fun h => h.2.2.elim h22 (fun h' => h1.elim h'.1 h'.2))]
      · by_cases hk : k = k'
        · rw [if_neg h1, if_neg (Decidable.not_not.2 hk), if_pos ⟨hc, hk, .inr (not_or.1 h1)⟩]
          exact congrArg Except.ok (squeeze_ofFn _ _ _ m n hm hn _)
        · rw [if_neg h1, if_pos hk, if_neg (fun h => hk h.2.1)]
    · rw [if_neg hc, if_neg (fun h => hc h.1), if_neg hc]

/-! ### the theorems -/

/-- MatMul against numpy.matmul, all cases: where the spec is undefined the operator refuses; where it is defined
the operator returns the spec's tensor if no operand matrix on the batched path has a single element, and refuses
otherwise -/
theorem matmulOp_vs_spec (A : Arith α) (a b : Tensor α) (hpa : Pos a.shape) (hpb : Pos b.shape) :
    (Spec.matmul A a b = none → ∃ e, matmulOp A a b = .error e) ∧
    ∀ s, Spec.matmul A a b = some s →
      s.WF ∧ (C04.NoOneByOne a b → matmulOp A a b = .ok s) ∧
        (¬ C04.NoOneByOne a b → matmulOp A a b = .error .gorgonia) := by
  by_cases h0 : a.shape.length = 0 ∨ b.shape.length = 0
  · unfold Spec.matmul matmulOp
    rw [if_pos h0, if_neg (by omega), if_pos h0]
    exact ⟨fun _ => ⟨_, rfl⟩, fun s hs => nomatch hs⟩
  obtain ⟨ba, m, k, hsa, hm, hpba, h2a⟩ := promote_split a.shape 1 (dim a.shape 0) (fun h => h0 (.inl h)) hpa
  obtain ⟨bb, k', n, hsb, hn, hpbb, h2b⟩ := promote_split b.shape (dim b.shape 0) 1 (fun h => h0 (.inr h)) hpb
  have hG : C04.NoOneByOne a b ↔ (a.shape.length = 2 ∧ b.shape.length = 2) ∨ (m * k ≠ 1 ∧ k' * n ≠ 1) := by
    unfold C04.NoOneByOne
    simp only [hsa, hsb, snoc2_len, snoc2_dim _ _ _ _ rfl]
  rw [spec_matmul_eq A a b ba bb m k k' n h0 hsa hsb,
    matmulOp_nf A a b ba bb m k k' n h0 hsa hsb (fun h => (hm h).1) (fun h => (hn h).2) hpba hpbb h2a h2b]
  by_cases hc : k ≠ k' ∨ (!Compatible ba bb) = true
  · rw [if_pos hc, if_neg (by simpa [and_assoc] using fun h1 h2 => (hc.elim (absurd h2) (by simp [h1])))]
    exact ⟨fun _ => ⟨_, rfl⟩, fun s hs => nomatch hs⟩
  · rw [if_neg hc]
    simp only [not_or, Decidable.not_not, Bool.not_eq_eq_eq_not, Bool.not_true, Bool.not_eq_false] at hc
    refine ⟨nofun, fun s hs => ?_⟩
    cases hs
    exact ⟨ofFn_WF _ _, fun hg => if_pos ⟨hc.2, hc.1, hG.1 hg⟩,
      fun hg => (if_neg fun h => hg (hG.2 h.2.2)).trans (by rw [if_pos hc.2])⟩

-- the proof does not use `hWa`, `hWb`: both sides read the operands at the same in-range positions
set_option linter.unusedVariables false in
theorem matmul_partial (A : Arith α) (a b : Tensor α) (hWa : a.WF) (hWb : b.WF)
    (hpa : Pos a.shape) (hpb : Pos b.shape)
    (hg : (a.shape.length = 2 ∧ b.shape.length = 2) ∨
      (let sa := if a.shape.length = 1 then [1, dim a.shape 0] else a.shape
       let sb := if b.shape.length = 1 then [dim b.shape 0, 1] else b.shape
       dim sa (sa.length - 2) * dim sa (sa.length - 1) ≠ 1 ∧ dim sb (sb.length - 2) * dim sb (sb.length - 1) ≠ 1))
    (s : Tensor α) (hs : Spec.matmul A a b = some s) :
    ∃ m, matmulOp A a b = .ok m ∧ Equiv m s :=
  have h := (matmulOp_vs_spec A a b hpa hpb).2 s hs
  equiv_of_ok ⟨h.2.1 hg, h.1⟩

theorem matmul_refuses (A : Arith α) (a b : Tensor α) (hpa : Pos a.shape) (hpb : Pos b.shape)
    (hs : Spec.matmul A a b = none) :
    ∀ m, matmulOp A a b ≠ .ok m := by
  obtain ⟨e, he⟩ := (matmulOp_vs_spec A a b hpa hpb).1 hs
  rw [he]
  exact fun _ h => nomatch h

/-- `Proofs.dim_take`, reachable under this namespace as well -/
theorem dim_take (l : List Nat) (n j : Nat) : dim (l.take n) j = if j < n then dim l j else 0 :=
  Proofs.dim_take l n j

end Gonnx.Proofs.MatMul
