import Gonnx.Ops.Index
import Gonnx.Spec.Index
import Gonnx.Proofs.GSlice
import Gonnx.Proofs.MapM
/-
Slice against ONNX: one theorem, `slice_multi`, for a request on any set of axes. Both sides are functions of
the request per axis, `pick j : Option Sl`: gorgonia through `GSlice.selOf`, ONNX through `onnxSel`. On one axis
ONNX computes gorgonia's selection, read as integers (`toOnnx`, `sliceAxis_kept`); on all axes gorgonia's table
of its selections is the one ONNX builds from them (`onnxSlice`, `gSlice_multi`).
-/
namespace Gonnx.Proofs.Slice
open Gonnx Gonnx.Spec Gonnx.Proofs Gonnx.Proofs.GSlice
variable {α : Type} [Inhabited α]

/-! ### the request per axis -/

/-- the request for axis `j`: the slice of the first (= only) position of `axes` naming it -/
def pick (r : Nat) (starts ends axes steps : List Int) (j : Nat) : Option Sl :=
  match (axes.map (natAxis r)).findIdx? (· = j) with
  | none => none
  | some i => some ⟨starts.getD i 0, ends.getD i 0, steps.getD i 1⟩

theorem pick_some {r : Nat} {starts ends axes steps : List Int} {j : Nat} {sl : Sl}
    (h : pick r starts ends axes steps j = some sl) :
    ∃ i, i < axes.length ∧ natAxis r (axes.getD i 0) = j ∧
      sl = ⟨starts.getD i 0, ends.getD i 0, steps.getD i 1⟩ := by
  unfold pick at h
  split at h
  · cases h
  · rename_i i hfi
    obtain ⟨hi, hp, _⟩ := List.findIdx?_eq_some_iff_getElem.1 hfi
    rw [List.length_map] at hi
    exact ⟨i, hi, by simpa [hi] using hp, (Option.some.inj h).symm⟩

/-- the loop of `constructSlices`, entered with the table of `f` (writing an entry of a table changes the tabulated
function, `set_map_range`): axis `j` ends with the request of the position of `axs` naming it, or keeps `f j`. The
loop keeps the last such position and `findIdx?` finds the first: they agree because the axes are duplicate-free,
which ONNX demands -/
theorem constructSlices_go_eq (r : Nat) (starts ends steps axs : List Int) (i : Nat) (f : Nat → Option Sl)
    (he : starts.length = ends.length) (hs : steps.length = starts.length) (hl : i + axs.length ≤ starts.length)
    (hr : ∀ a ∈ axs, -(r : Int) ≤ a ∧ a < r) (hnd : (axs.map (natAxis r)).Nodup) :
    constructSlices.go r starts ends steps i axs ((List.range r).map f) = .ok ((List.range r).map fun j =>
      match (axs.map (natAxis r)).findIdx? (· = j) with
      | none => f j
      | some k => some ⟨starts.getD (i + k) 0, ends.getD (i + k) 0, steps.getD (i + k) 1⟩) := by
  induction axs generalizing i f with
  | nil => rfl
  | cons ax rest ih =>
    rw [List.length_cons] at hl
    rw [List.map_cons, List.nodup_cons] at hnd
    obtain ⟨hax, hr⟩ := List.forall_mem_cons.1 hr
    obtain ⟨hcast, hlt⟩ := natAxis_cast hax
    have hi : i < starts.length := by omega
    unfold constructSlices.go
    rw [getElem?_eq_some_getD hi 0, getElem?_eq_some_getD (he ▸ hi) 0, getElem?_eq_some_getD (hs ▸ hi) 1]
    simp only [Int.add_comm (r : Int) ax, hcast, Int.toNat_natCast]
    rw [if_neg (by omega), set_map_range, ih (i + 1) _ (by omega) hr hnd.2]
    refine congrArg _ (List.map_congr_left fun j _ => ?_)
    rw [List.map_cons, List.findIdx?_cons]
    by_cases hja : natAxis r ax = j
    · -- `j` is named here and, the axes being distinct, nowhere later: the entry written now stays
      have hnone : (rest.map (natAxis r)).findIdx? (· = j) = none :=
        List.findIdx?_eq_none_iff.2 fun x hx => decide_eq_false fun e => hnd.1 (hja ▸ e ▸ hx)
      simp only [hnone, decide_eq_true_eq, if_pos hja]
      rfl
    · simp only [decide_eq_true_eq, if_neg hja]
      cases (rest.map (natAxis r)).findIdx? (· = j) with
      | none => rfl
      | some k =>
        simp only [Option.map_some, Nat.add_right_comm i 1 k]
        rfl

theorem constructSlices_eq (r : Nat) (starts ends steps axes : List Int)
    (he : starts.length = ends.length) (hs : steps.length = starts.length) (hl : axes.length ≤ starts.length)
    (hr : ∀ a ∈ axes, -(r : Int) ≤ a ∧ a < r) (hnd : (axes.map (natAxis r)).Nodup) :
    constructSlices r starts ends steps axes = .ok ((List.range r).map (pick r starts ends axes steps)) := by
  have h0 : List.replicate r (none : Option Sl) = (List.range r).map fun _ => none := by
    rw [List.map_const', List.length_range]
  unfold constructSlices
  rw [h0, constructSlices_go_eq r starts ends steps axes 0 _ he hs (by omega) hr hnd]
  simp only [Nat.zero_add]
  rfl

/-! ### one axis: ONNX against gorgonia -/

/-- `sel` of `Spec.slice`, as a function of the request (an `Option`: ONNX refuses a zero step) -/
def onnxSel (d : Nat) : Option Sl → Option (Int × Int × Nat)
  | none => some (0, 1, d)
  | some sl => sliceAxis d sl.start sl.stop sl.step

/-- a selection of gorgonia's, read as the (start, step, extent) that `Spec.slice` computes for an axis -/
def toOnnx (a : AxisSel) : Int × Int × Nat := (a.start, a.step, a.ext)

/-- when ONNX gives a request without negative numbers an extent ≥ 2, it has computed gorgonia's selection: the
extent is `extQ` and the start is not moved -/
theorem sliceAxis_kept (d : Nat) (sl : Sl) (ha : 0 ≤ sl.start) (hb : 0 ≤ sl.stop) (hc : 1 ≤ sl.step)
    {v : Int × Int × Nat} (hv : sliceAxis d sl.start sl.stop sl.step = some v) (h : 2 ≤ v.2.2) :
    2 ≤ extQ d sl ∧ v = toOnnx (selOf d (some sl)).1 := by
  unfold sliceAxis at hv
  unfold toOnnx selOf extQ clampEnd
  have h1 : ¬ sl.step = 0 := by omega
  have h2 : ¬ sl.start < 0 := by omega
  have h3 : ¬ sl.stop < 0 := by omega
  have h4 : sl.step > 0 := by omega
  simp only [h1, h2, h3, h4, if_true, if_false, Option.some.injEq] at hv
  subst hv
  simp only at h
  by_cases hsd : sl.start > d
  · rw [if_pos hsd, if_neg (by split <;> omega)] at h
    simp at h
  · simp only [if_neg hsd] at h ⊢
    by_cases he : (if sl.stop > (d : Int) then (d : Int) else sl.stop) > sl.start
    · rw [if_pos he] at h ⊢
      rw [Int.toNat_of_nonneg ha, Int.toNat_of_nonneg (Int.le_of_lt h4)]
      exact ⟨by omega, rfl⟩
    · rw [if_neg he] at h
      simp at h

/-! ### gorgonia's slice against the ONNX index formula, request given per axis -/

/-- the tensor `Spec.slice` builds from the (start, step, extent) of every axis -/
def onnxSlice (t : Tensor α) (sels : List (Int × Int × Nat)) : Tensor α :=
  ofFn (sels.map (·.2.2)) fun idx =>
    t.get (List.zipWith (fun (s : Int × Int × Nat) (i : Nat) => (s.1 + (i : Int) * s.2.1).toNat) sels idx)

/-- with no axis dropped, the table gorgonia builds from its selections is the one ONNX builds from them -/
theorem nodrop_eq_onnxSlice (t : Tensor α) (as : List AxisSel) (h : ∀ a ∈ as, a.drop = false) :
    ofFn ((as.filter (!·.drop)).map (·.ext)) (fun idx => t.get (sliceIndex as idx)) = onnxSlice t (as.map toOnnx) := by
  unfold onnxSlice
  rw [List.filter_eq_self.2 fun a ha => by rw [h a ha]; rfl, List.map_map]
  refine ofFn_congr fun idx hidx => ?_
  rw [sliceIndex_nodrop _ _ h (by simp [InRange_length hidx]), List.zipWith_map_left]
  -- `(↑a + ↑k * ↑b).toNat` computes to `a + k * b`
  rfl

/-- gorgonia's slice is the ONNX slice of its selections when every request is in range and keeps its axis, unless
exactly one element is selected on a tensor of rank ≥ 1 (gorgonia then answers with a scalar) -/
theorem gSlice_multi (t : Tensor α) (q : Nat → Option Sl) (hpos : Pos t.shape)
    (hq : ∀ j, j < t.shape.length → SlKept j (dim t.shape j) (q j))
    (hnc : (∃ j, j < t.shape.length ∧ (q j).isSome) ∨ 2 ≤ prod t.shape ∨ t.shape = []) :
    gSlice t ((List.range t.shape.length).map q) =
      .ok (onnxSlice t ((List.range t.shape.length).map fun j => toOnnx (selOf (dim t.shape j) (q j)).1)) := by
  by_cases h0 : t.shape = []
  · unfold gSlice onnxSlice
    simp only [h0, List.length_nil, List.range_zero, List.map_nil, axisSels, strides]
    simp [ofFn, allIdx, Tensor.get, h0, ravel]
  have hget : ∀ j, j < t.shape.length → ((List.range t.shape.length).map q).getD j none = q j :=
    fun j hj => getD_map_range _ _ _ _ hj
  have hsels : ((List.range t.shape.length).map fun j => (selAt t.shape ((List.range t.shape.length).map q) j).1) =
      (List.range t.shape.length).map fun j => (selOf (dim t.shape j) (q j)).1 :=
    List.map_congr_left fun j hj => by rw [selAt, hget j (List.mem_range.1 hj)]
  rw [gSlice_eq t _ (by simp) hpos (fun j hj => by rw [hget j hj]; exact (hq j hj).1), hsels, nodrop_eq_onnxSlice,
    List.map_map]
  · rfl
  · intro a ha
    obtain ⟨j, hj, rfl⟩ := List.mem_map.1 ha
    exact selOf_nodrop (hq j (List.mem_range.1 hj))
  · -- a sliced axis keeps ≥ 2 positions; without one, some whole axis has them
    have : ∃ j, j < t.shape.length ∧ ((q j).isSome ∨ 2 ≤ dim t.shape j) := by
      rcases hnc with ⟨j, hj, hs⟩ | h2 | h
      · exact ⟨j, hj, .inl hs⟩
      · obtain ⟨j, hj, hd⟩ := exists_dim_ge_two t.shape hpos h2
        exact ⟨j, hj, .inr hd⟩
      · exact absurd h h0
    obtain ⟨j, hj, h2⟩ := this
    exact ⟨j, hj, by rw [selAt, hget j hj]; exact selOf_span_two (hq j hj) h2⟩

/-! ### the ONNX side of a request given as four lists -/

/-- what a defined `Spec.slice` says: its three guards, and the result as the `onnxSlice` of what ONNX computes for
each axis from that axis's request -/
theorem spec_slice_some (t : Tensor α) (starts ends axes steps : List Int) (s : Tensor α)
    (hs : Spec.slice t starts ends axes steps = some s) :
    starts.length = ends.length ∧ axes.length = starts.length ∧ steps.length = starts.length ∧
    (∀ a ∈ axes, -(t.shape.length : Int) ≤ a ∧ a < t.shape.length) ∧
    (axes.map (natAxis t.shape.length)).Nodup ∧
    ∃ v, (∀ j, j < t.shape.length →
        onnxSel (dim t.shape j) (pick t.shape.length starts ends axes steps j) = some (v j)) ∧
      s = onnxSlice t ((List.range t.shape.length).map v) := by
  simp only [Spec.slice, Option.ite_none_left_eq_some, ne_eq, not_or, Decidable.not_not, Bool.not_eq_true,
    Bool.not_eq_false', List.all_eq_true, decide_eq_true_eq] at hs
  obtain ⟨⟨hl1, hl2, hl3⟩, hrange, hdup, hs⟩ := hs
  split at hs
  · cases hs
  rename_i sels hm
  cases hs
  obtain ⟨v, rfl, hv⟩ := mapM_some_eq_map hm
  refine ⟨hl1, hl2, hl3, hrange, (eraseDups_length_eq_iff _).1 hdup, v, fun j hj => ?_, rfl⟩
  rw [← hv j (List.mem_range.2 hj)]
  unfold onnxSel pick
  cases (axes.map (natAxis t.shape.length)).findIdx? (· = j) <;> rfl

/-- Slice on any set of axes; `hempty` and `hg` are `C08.SliceGuards` unfolded -/
theorem slice_multi (t : Tensor α) (starts ends axes steps : List Int) (hpos : Pos t.shape)
    (s : Tensor α) (hs : Spec.slice t starts ends axes steps = some s)
    (hempty : axes = [] → t.shape = [] ∨ 2 ≤ prod t.shape)
    (hg : ∀ i, i < axes.length →
      1 ≤ steps.getD i 1 ∧ 0 ≤ starts.getD i 0 ∧ 0 ≤ ends.getD i 0 ∧
      2 ≤ dim s.shape (natAxis t.shape.length (axes.getD i 0)) ∧
      (natAxis t.shape.length (axes.getD i 0) = 0 →
        (clampEnd (dim t.shape 0) (ends.getD i 0) - starts.getD i 0) % steps.getD i 1 = 0)) :
    ∃ m, sliceOp t starts ends (some axes) (some steps) = .ok m ∧ Equiv m s := by
  obtain ⟨hl1, hl2, hl3, hrange, hnd, v, hv, rfl⟩ := spec_slice_some t starts ends axes steps s hs
  -- on every axis ONNX computes what gorgonia selects
  have hax : ∀ j, j < t.shape.length →
      v j = toOnnx (selOf (dim t.shape j) (pick t.shape.length starts ends axes steps j)).1 ∧
      SlKept j (dim t.shape j) (pick t.shape.length starts ends axes steps j) := by
    intro j hj
    have hv := hv j hj
    cases hq : pick t.shape.length starts ends axes steps j with
    | none =>
      rw [hq] at hv
      exact ⟨(Option.some.inj hv).symm, trivial, nofun⟩
    | some sl =>
      obtain ⟨i, hi, hji, rfl⟩ := pick_some hq
      obtain ⟨g1, g2, g3, g4, g5⟩ := hg i hi
      -- the extent named in the guard is the one ONNX gives axis `j`
      rw [hji, onnxSlice, ofFn_shape, List.map_map, dim_map_range _ _ _ hj] at g4
      rw [hq] at hv
      obtain ⟨k1, e⟩ := sliceAxis_kept (dim t.shape j) _ g2 g3 g1 hv g4
      exact ⟨e, SlKept.of_ext g2 g1 k1 fun h0 => by subst h0; exact g5 hji⟩
  rw [List.map_congr_left fun j hj => (hax j (List.mem_range.1 hj)).1]
  unfold sliceOp
  simp only [Option.getD_some]
  rw [constructSlices_eq _ _ _ _ _ hl1 hl3 (Nat.le_of_eq hl2) hrange hnd]
  refine ⟨_, gSlice_multi t _ hpos (fun j hj => (hax j hj).2) ?_, Equiv.refl (ofFn_WF _ _)⟩
  cases axes with
  | nil => exact .inr (hempty rfl).symm
  | cons ax rest =>
    exact .inl ⟨natAxis t.shape.length ax, (natAxis_cast (hrange ax List.mem_cons_self)).2,
      by simp [pick, List.findIdx?_cons]⟩

end Gonnx.Proofs.Slice
