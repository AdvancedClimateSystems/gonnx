import Gonnx.Graph.Decode
import Gonnx.Spec.Decode
import Gonnx.Graph.NewModel
import Gonnx.Proofs.MapM
/-
Helper lemmas for C12 (weight decoding). The definitions `bytesLE`, `encodeLE`, `supported`, `NoTyped` of
namespace `Gonnx.C12` live here: both the helpers below and the statements in Gonnx/Theorems/C12.lean
refer to them.
-/
namespace Gonnx.C12
open Gonnx Gonnx.Spec

/-- little-endian bytes of a value at width `w` -/
def bytesLE : Nat → Nat → List Nat
  | 0, _ => []
  | w+1, v => (v % 256) :: bytesLE w (v / 256)

/-- raw encoding of a list of element bit patterns -/
def encodeLE (w : Nat) (xs : List Nat) : List Nat := xs.flatMap (bytesLE w)

/-- the supported element types and their ONNX codes -/
def supported : List (Int × DType) :=
  [(1, .f32), (2, .u8), (3, .i8), (4, .u16), (5, .i16), (6, .i32), (7, .i64), (9, .bool), (11, .f64),
   (12, .u32), (13, .u64)]

/-- no typed repeated field is populated -/
def NoTyped (tp : TensorProtoM) : Prop :=
  tp.floatData = [] ∧ tp.int32Data = [] ∧ tp.int64Data = [] ∧ tp.doubleData = [] ∧ tp.uint64Data = []

end Gonnx.C12

namespace Gonnx.Proofs.Decode
open Gonnx Gonnx.Spec Gonnx.C12

/-! ### bytes -/

theorem bytesLE_length (w x : Nat) : (bytesLE w x).length = w := by
  induction w generalizing x with
  | zero => rfl
  | succ w ih => simp [bytesLE, ih]

theorem leValue_bytesLE (w x : Nat) (h : x < 2 ^ (8 * w)) : leValue (bytesLE w x) = x := by
  induction w generalizing x with
  | zero => exact (Nat.lt_one_iff.1 h).symm
  | succ w ih =>
    rw [Nat.mul_succ, Nat.pow_add, Nat.mul_comm] at h
    rw [bytesLE, leValue, ih _ (Nat.div_lt_of_lt_mul h)]
    exact Nat.mod_add_div x 256

theorem encodeLE_nil (w : Nat) : encodeLE w [] = [] := rfl

theorem encodeLE_cons (w x : Nat) (xs : List Nat) :
    encodeLE w (x :: xs) = bytesLE w x ++ encodeLE w xs := by
  simp [encodeLE]

theorem encodeLE_length (w : Nat) (xs : List Nat) : (encodeLE w xs).length = xs.length * w := by
  induction xs with
  | nil => simp [encodeLE_nil]
  | cons x xs ih => rw [encodeLE_cons, List.length_append, bytesLE_length, ih, List.length_cons,
      Nat.succ_mul, Nat.add_comm]

/-! ### the reader loop -/

/-- one pass of the loop over a payload that begins with a whole element -/
theorem readChunks_append (w fuel : Nat) (hw : 0 < w) (c rest acc : List Nat) (hc : c.length = w) :
    readChunks w w (fuel + 1) (c ++ rest) acc = readChunks w w fuel rest (leValue c :: acc) := by
  have hne : (c ++ rest).isEmpty = false :=
    List.isEmpty_eq_false_iff.2 (List.append_ne_nil_of_left_ne_nil (List.ne_nil_of_length_pos (hc ▸ hw)) _)
  rw [readChunks, hne, if_neg Bool.false_ne_true, List.take_left' hc, List.drop_left' hc, if_neg (not_not_intro hc)]

theorem readChunks_encodeLE (w : Nat) (hw : 0 < w) (xs : List Nat)
    (h : ∀ x ∈ xs, x < 2 ^ (8 * w)) (fuel : Nat) (acc : List Nat) (hf : xs.length < fuel) :
    readChunks w w fuel (encodeLE w xs) acc = acc.reverse ++ xs := by
  induction xs generalizing fuel acc with
  | nil =>
    obtain ⟨f, rfl⟩ := Nat.exists_eq_add_one.2 hf
    exact (List.append_nil acc.reverse).symm
  | cons x xs ih =>
    obtain ⟨f, rfl⟩ := Nat.exists_eq_add_one.2 (Nat.zero_lt_of_lt hf)
    rw [encodeLE_cons, readChunks_append w f hw _ _ _ (bytesLE_length w x),
      ih (fun y hy => h y (List.mem_cons_of_mem _ hy)) f _ (Nat.lt_of_succ_lt_succ hf),
      leValue_bytesLE w x (h x List.mem_cons_self), List.reverse_cons, List.append_assoc, List.singleton_append]

/-- **How many elements the loop returns**, branch by branch of the loop: all of a payload that is a whole
number of elements, none after a trailing partial element. -/
theorem readChunks_length (w : Nat) (hw : 0 < w) (fuel : Nat) (data acc : List Nat) (hf : data.length < fuel) :
    (readChunks w w fuel data acc).length = if data.length % w = 0 then acc.length + data.length / w else 0 := by
  fun_induction readChunks w w fuel data acc with
  | case1 data acc => exact absurd hf (Nat.not_lt_zero _)   -- out of fuel
  | case2 fuel data acc he =>   -- nothing left
    rw [List.isEmpty_iff.1 he, List.length_reverse, List.length_nil, Nat.zero_mod, Nat.zero_div]; rfl
  | case3 fuel data acc he chunk hc =>   -- a short read
    have hlt : data.length < w := Nat.lt_of_not_le fun hle => hc (List.length_take_of_le hle)
    rw [Nat.mod_eq_of_lt hlt, if_neg fun h0 => he (List.isEmpty_iff.2 (List.eq_nil_of_length_eq_zero h0))]; rfl
  | case4 fuel data acc he chunk hc ih =>   -- a whole element
    have hge : w ≤ data.length := Decidable.not_not.1 hc ▸ List.length_take_le' w data
    rw [ih (List.length_drop ▸ Nat.lt_of_lt_of_le (Nat.sub_lt_self hw hge) (Nat.le_of_lt_succ hf)),
      List.length_drop, ← Nat.mod_eq_sub_mod hge, Nat.div_eq_sub_div hw hge, List.length_cons,
      Nat.add_right_comm, Nat.add_assoc]

theorem readLE_length_eq (w : Nat) (hw : 0 < w) (data : List Nat) :
    (readLE w data).length = if data.length % w = 0 then data.length / w else 0 :=
  (readChunks_length w hw _ data [] (Nat.lt_succ_self _)).trans (by rw [List.length_nil, Nat.zero_add])

/-! ### the decoder -/

/-- two guards that raise the same error are one guard -/
theorem ite_ite_error {α ε : Type} {a b : Prop} [Decidable a] [Decidable b] (e : ε) (x : Except ε α) :
    (if a then .error e else if b then .error e else x) = if ¬a ∧ ¬b then x else .error e := by
  by_cases a <;> by_cases b <;> simp [*]

theorem not_any_neg_iff (l : List Int) : ¬ (l.any (· < 0) = true) ↔ ∀ x ∈ l, 0 ≤ x := by simp

/-- **`decode` in one equation.** The element type is the coded one if the library has it, else that of the
first populated typed field; then one test: the dims are non-negative and the element count is theirs. -/
theorem decode_eq (tp : TensorProtoM) :
    decode tp = match (dtypeOfCode tp.dataType).or (fallbackDType tp) with
      | none => .error .invalidType
      | some dt =>
        if (∀ x ∈ tp.dims, 0 ≤ x) ∧ (valuesFor tp dt).length = prod (tp.dims.map Int.toNat)
        then .ok ⟨dt, tp.dims.map Int.toNat, valuesFor tp dt⟩ else .error .shape := by
  unfold decode
  simp only [ite_ite_error, not_any_neg_iff, ne_eq, Decidable.not_not]
  cases dtypeOfCode tp.dataType <;> cases fallbackDType tp <;> rfl

theorem decode_of_code (tp : TensorProtoM) (dt : DType) (h : dtypeOfCode tp.dataType = some dt) :
    decode tp =
      if (∀ x ∈ tp.dims, 0 ≤ x) ∧ (valuesFor tp dt).length = prod (tp.dims.map Int.toNat)
      then .ok ⟨dt, tp.dims.map Int.toNat, valuesFor tp dt⟩ else .error .shape := by
  rw [decode_eq, h, Option.some_or]

theorem fallbackDType_of_noTyped (tp : TensorProtoM) (hn : NoTyped tp) : fallbackDType tp = none := by
  obtain ⟨h1, h2, h3, h4, h5⟩ := hn
  simp [fallbackDType, h1, h2, h3, h4, h5]

theorem supported_spec : ∀ p ∈ supported, dtypeOfCode p.1 = some p.2 ∧ 0 < width p.2 := by decide

theorem code_of_supported (code : Int) (dt : DType) (hs : (code, dt) ∈ supported) :
    dtypeOfCode code = some dt := (supported_spec _ hs).1

theorem width_pos_of_supported (code : Int) (dt : DType) (hs : (code, dt) ∈ supported) :
    0 < width dt := (supported_spec _ hs).2

/-- with no typed field populated every element type is read from the raw bytes: `bool` byte by byte, the
others through `readLE` at their width -/
theorem valuesFor_noTyped (tp : TensorProtoM) (dt : DType) (hw : 0 < width dt) (hn : NoTyped tp) :
    valuesFor tp dt = if dt = .bool then tp.rawData.map (fun b => if b > 0 then 1 else 0)
      else readLE (width dt) tp.rawData := by
  -- with the typed fields literally empty, each reader's test `length > 0` evaluates
  obtain ⟨dataType, dims, fd, i32, i64, dd, u64, raw⟩ := tp
  obtain ⟨rfl, rfl, rfl, rfl, rfl⟩ : fd = [] ∧ i32 = [] ∧ i64 = [] ∧ dd = [] ∧ u64 = [] := hn
  cases dt <;> first
    | rfl
    | exact absurd hw (Nat.lt_irrefl 0)

/-- length of what a raw-only payload decodes to, whenever the count can be wrong -/
theorem valuesFor_length_ne (tp : TensorProtoM) (code : Int) (dt : DType) (hs : (code, dt) ∈ supported)
    (hn : NoTyped tp) (n : Nat) (hlen : tp.rawData.length ≠ n * width dt)
    (hp : tp.rawData.length % width dt = 0 ∨ n ≠ 0) : (valuesFor tp dt).length ≠ n := by
  have hw := width_pos_of_supported code dt hs
  rw [valuesFor_noTyped tp dt hw hn]
  split
  · next hb => subst hb; rw [List.length_map]; exact fun he => hlen (he.trans (Nat.mul_one n).symm)
  · rw [readLE_length_eq _ hw]
    split
    · next hm => exact fun he => hlen (by rw [← he, Nat.div_mul_cancel (Nat.dvd_of_mod_eq_zero hm)])
    · next hm => exact fun he => hp.elim hm fun h => h he.symm

/-! ### the initializer list -/

theorem decodeParams_eq_mapM (l : List TensorProtoM) : decodeParams l = l.mapM decode := by
  induction l with
  | nil => rfl
  | cons tp rest ih =>
    rw [List.mapM_cons, ← ih, decodeParams]
    cases decode tp <;> cases decodeParams rest <;> rfl

/-- `newModel` is the decoding of the initializers, then the opset test -/
theorem newModel_eq (supported : List Int) (mp : ModelProtoM) :
    newModel supported mp =
      decodeParams (if mp.hasGraph then mp.initializers else []) >>= fun ps =>
        if supported.contains (opsetOf mp.opsetVersions) then .ok (ps, opsetOf mp.opsetVersions)
        else .error .unsupportedOpset := by
  unfold newModel
  cases decodeParams (if mp.hasGraph then mp.initializers else []) <;> rfl

end Gonnx.Proofs.Decode
