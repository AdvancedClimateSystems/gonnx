import Gonnx.Broadcast
import Gonnx.Spec.Broadcast
import Gonnx.Proofs.Tensor
import Gonnx.Proofs.MapM
/-
Broadcasting (C14; C03, C04, C05, C06, C08, C10, C16 build on it). Both repeat loops reduce to a one-operand loop
`repA`. Its elements and its shape are found separately. The elements need no assumption and no arithmetic on the
loop counter: the loop only repeats along axes on which `pin` ignores the index (`pin_modify`), so "the element at
`idx` is the operand's at `pin idx`" is an invariant (`repA_induction`, `stretchLead_Is`). The shape is read extent by
extent (`dim_repA_shape`, `dim_stretchLead_shape`). `multidirBroadcast` and `unidirBroadcast` are given in closed
form (`multidirBroadcast_eq`, `unidirBroadcast_eq`: `.ok` of the stretched operands if the shapes fit, else
`.error .broadcast`) with `stretch X t`, the operand `X` broadcast against the shape `t`, which users read through
`stretch_Is_of_compatible`, `stretch_Is_of_uniCompat` and `stretchLead_batch`. When a helper succeeds, what it then
returned and how it fails are read off its closed form (`ite_ok_eq_ok`, `isOk_ite_ok`, `ite_ok_eq_error`).
-/
namespace Gonnx.Proofs
open Gonnx Gonnx.Spec
variable {α : Type} [Inhabited α]

theorem isOk_ite_ok {β : Type} {c : Prop} [Decidable c] {e : Err} {x : β} :
    (if c then .ok x else .error e : Res β).isOk = decide c := by
  split <;> simp [Res.isOk, *]

/-! ### `repeatAxis` -/

theorem repeatAxis_shape (X : Tensor α) (k n : Nat) :
    (repeatAxis X k n).shape = X.shape.modify k (· * n) := rfl

theorem dim_repeatAxis_shape (X : Tensor α) (k n j : Nat) :
    dim (repeatAxis X k n).shape j = if j = k then dim X.shape j * n else dim X.shape j := by
  rw [repeatAxis_shape, dim_modify]
  by_cases hj : j < X.shape.length
  · simp only [hj, and_true]
  · simp only [hj, and_false, dim_of_le _ j (Nat.le_of_not_lt hj), Nat.zero_mul, ite_self]

theorem InRange_modify_div {idx u : List Nat} {k n : Nat} (h : InRange idx (u.modify k (· * n))) :
    InRange (idx.modify k (· / n)) u := by
  rw [InRange_dim] at h ⊢
  obtain ⟨hl, hp⟩ := h
  rw [List.length_modify] at hl hp
  refine ⟨by rw [List.length_modify, hl], fun j hj => ?_⟩
  have := hp j hj
  rw [dim_modify] at this ⊢
  split
  · next hjk =>
    rw [if_pos ⟨hjk.1, hj⟩] at this
    exact Nat.div_lt_of_lt_mul (by rwa [Nat.mul_comm])
  · next hjk =>
    rw [if_neg (by omega)] at this; exact this

theorem repeatAxis_Is {X : Tensor α} {u : List Nat} {f : List Nat → α} (h : X.Is u f) (k n : Nat) :
    (repeatAxis X k n).Is (u.modify k (· * n)) (fun idx => f (idx.modify k (· / n))) := by
  obtain ⟨rfl, hf⟩ := h
  exact ⟨rfl, fun idx hi => (get_ofFn _ _ _ hi).trans (hf _ (InRange_modify_div hi))⟩

theorem repeatAxis_one (X : Tensor α) (k : Nat) (h : X.WF) : repeatAxis X k 1 = X := by
  unfold repeatAxis
  have h1 : (fun x : Nat => x * 1) = id := by funext x; simp
  have h2 : (fun x : Nat => x / 1) = id := by funext x; simp
  simp only [h1, h2, List.modify_id]
  exact ofFn_get_self X h

/-! ### one-sided view of the repeat loops -/

/-- what the loops do to the operand whose original shape is `s` (the other one being `t`) -/
def repA (s t : List Nat) : Nat → Tensor α → Tensor α
  | 0, X => X
  | k+1, X =>
    if dim s k = 1 ∧ dim t k ≠ 1 then repA s t k (repeatAxis X k (dim t k)) else repA s t k X

/-- what each of the repeats the loop may perform preserves, the loop preserves -/
theorem repA_induction {P : Tensor α → Prop} {s t : List Nat} {k : Nat}
    (hP : ∀ Y i, i < k → dim s i = 1 → P Y → P (repeatAxis Y i (dim t i))) {Y : Tensor α} (h : P Y) :
    P (repA s t k Y) := by
  induction k generalizing Y with
  | zero => exact h
  | succ k ih =>
    have hP' (Y : Tensor α) (i : Nat) (hi : i < k) := hP Y i (Nat.lt_succ_of_lt hi)
    unfold repA
    split
    · next hc => exact ih hP' (hP Y k (Nat.lt_succ_self k) hc.1 h)
    · exact ih hP' h

theorem repA_WF (s t : List Nat) (k : Nat) (X : Tensor α) (h : X.WF) : (repA s t k X).WF :=
  repA_induction (fun _ _ _ _ _ => ofFn_WF _ _) h

theorem repA_self (s : List Nat) (k : Nat) (X : Tensor α) : repA s s k X = X := by
  induction k with
  | zero => rfl
  | succ k ih => rw [repA, if_neg (fun h => h.2 h.1), ih]

theorem dim_repA_shape_of_le (s t : List Nat) {k j : Nat} (Y : Tensor α) (hj : k ≤ j) :
    dim (repA s t k Y).shape j = dim Y.shape j :=
  repA_induction (P := fun Y' => dim Y'.shape j = dim Y.shape j)
    (fun Y' i hi _ h => by rw [dim_repeatAxis_shape, if_neg (by omega), h]) rfl

/-- An axis the loop passes, of the extent the loop reads for it: an extent 1 takes the other extent, stretched or
not (where it is not, the other extent is 1 too). -/
theorem dim_repA_shape (s t : List Nat) {k j : Nat} (Y : Tensor α) (hj : j < k) (hY : dim Y.shape j = dim s j) :
    dim (repA s t k Y).shape j = if dim s j = 1 then dim t j else dim s j := by
  induction k generalizing Y with
  | zero => exact absurd hj (Nat.not_lt_zero _)
  | succ k ih =>
    unfold repA
    by_cases hjk : j = k
    · subst hjk -- the steps that remain leave this axis alone
      split
      · next hc =>
        rw [dim_repA_shape_of_le _ _ _ (Nat.le_refl _), dim_repeatAxis_shape, if_pos rfl, hY, hc.1, if_pos rfl,
          Nat.one_mul]
      · next hc =>
        rw [dim_repA_shape_of_le _ _ _ (Nat.le_refl _), hY]
        split
        · next h => rw [h, Decidable.not_not.1 fun h' => hc ⟨h, h'⟩]
        · rfl
    · have hj' : j < k := by omega
      split
      · exact ih _ hj' (by rw [dim_repeatAxis_shape, if_neg hjk, hY])
      · exact ih _ hj' hY

/-! ### leading axes of extent 1 -/

/-- axes of extent 1 carry no offset -/
theorem InRange_ones_append {d : Nat} {s idx : List Nat} (h : InRange idx (List.replicate d 1 ++ s)) :
    InRange (idx.drop d) s ∧ ravel (List.replicate d 1 ++ s) idx = ravel s (idx.drop d) := by
  obtain ⟨h1, h2⟩ := InRange_split idx (List.replicate d 1) s h
  rw [List.length_replicate] at h1 h2
  have h0 := ravel_lt _ _ h1
  rw [prod_replicate_one] at h0
  refine ⟨h2, ?_⟩
  conv => lhs; rw [← List.take_append_drop d idx]
  rw [ravel_append _ _ _ _ (InRange_length h1), Nat.lt_one_iff.1 h0, Nat.zero_mul, Nat.zero_add]

theorem addExtraDims_Is (X : Tensor α) (d : Nat) :
    (addExtraDims X d).Is (List.replicate d 1 ++ X.shape) (fun idx => X.get (idx.drop d)) :=
  reshape_Is X _ _ fun _ hi => (InRange_ones_append hi).2

omit [Inhabited α] in
theorem addExtraDims_WF {X : Tensor α} (h : X.WF) (d : Nat) : (addExtraDims X d).WF := by
  rw [Tensor.WF, addExtraDims, prod_append, prod_replicate_one, Nat.one_mul]
  exact h

omit [Inhabited α] in
/-- the helpers pad only an operand of lower rank; padding by no axes is no padding, so they may be read as padding
always -/
theorem ite_addExtraDims (X : Tensor α) (a b : Nat) :
    (if a > b then addExtraDims X (a - b) else X) = addExtraDims X (a - b) := by
  split
  · rfl
  · next h => rw [Nat.sub_eq_zero_of_le (Nat.le_of_not_lt h)]; rfl

/-! ### the loops as `Except`-valued closed forms -/

theorem dimCompat_iff (a b : Nat) : dimCompat a b = true ↔ a = b ∨ a = 1 ∨ b = 1 := by
  simp [dimCompat, or_assoc]

theorem repeatMulti_eq (sA sB : List Nat) (k : Nat) (A B : Tensor α) :
    repeatMulti sA sB k A B =
      if ∀ j, j < k → dim sA j = dim sB j ∨ dim sA j = 1 ∨ dim sB j = 1 then
        .ok (repA sA sB k A, repA sB sA k B)
      else .error .broadcast := by
  induction k generalizing A B with
  | zero => simp [repeatMulti, repA]
  | succ k ih =>
    simp only [repeatMulti, repA, ih, Nat.forall_lt_succ_right]
    by_cases hab : dim sA k = dim sB k
    · simp [hab]
    · by_cases ha : dim sA k = 1
      · have hb : ¬ 1 = dim sB k := by omega
        simp [ha, hb, Ne.symm hb]
      · by_cases hb : dim sB k = 1
        · simp [ha, hb]
        · simp [hab, ha, hb]

theorem repeatUni_eq (sA sB : List Nat) (k : Nat) (B : Tensor α) :
    repeatUni sA sB k B =
      if ∀ j, j < k → dim sA j = dim sB j ∨ dim sB j = 1 then .ok (repA sB sA k B)
      else .error .broadcast := by
  induction k generalizing B with
  | zero => simp [repeatUni, repA]
  | succ k ih =>
    simp only [repeatUni, repA, ih, Nat.forall_lt_succ_right]
    by_cases hab : dim sA k = dim sB k
    · simp [hab]
    · by_cases hb : dim sB k = 1
      · have ha : ¬ dim sA k = 1 := by omega
        simp [hb, ha]
      · simp [hab, hb]

/-! ### padded shapes, `Compatible`, `bshape`, `pin` pointwise -/

theorem length_padShape (r : Nat) (s : List Nat) (h : s.length ≤ r) : (padShape r s).length = r := by
  rw [padShape, List.length_append, List.length_replicate, Nat.sub_add_cancel h]

theorem length_padShape_left (s t : List Nat) :
    (padShape (max s.length t.length) s).length = max s.length t.length :=
  length_padShape _ _ (Nat.le_max_left _ _)

theorem length_padShape_right (s t : List Nat) :
    (padShape (max s.length t.length) t).length = max s.length t.length :=
  length_padShape _ _ (Nat.le_max_right _ _)

theorem dim_padShape (r : Nat) (s : List Nat) (j : Nat) :
    dim (padShape r s) j = if j < r - s.length then 1 else dim s (j - (r - s.length)) := by
  rw [padShape, dim_append, dim_replicate]; simp only [List.length_replicate]
  split <;> rfl

theorem padShape_append (r : Nat) (s t : List Nat) : padShape (r + t.length) (s ++ t) = padShape r s ++ t := by
  simp [padShape, Nat.add_sub_add_right]

theorem padShape_self (s : List Nat) : padShape s.length s = s := by simp [padShape]

theorem dim_padShape_pos {r j : Nat} {s : List Nat} (hs : Pos s) (hr : s.length ≤ r) (hj : j < r) :
    0 < dim (padShape r s) j := by
  rw [dim_padShape]
  split
  · exact Nat.one_pos
  · exact Pos_dim hs (by omega)

theorem compatible_iff (s t : List Nat) :
    Compatible s t = true ↔ ∀ j, j < max s.length t.length →
      dim (padShape (max s.length t.length) s) j = dim (padShape (max s.length t.length) t) j ∨
        dim (padShape (max s.length t.length) s) j = 1 ∨ dim (padShape (max s.length t.length) t) j = 1 := by
  unfold Compatible
  simp only []
  rw [all_zipWith_iff _ _ _ (by rw [length_padShape_left, length_padShape_right]), length_padShape_left]
  simp only [dimCompat_iff]

theorem length_bshape (s1 s2 : List Nat) : (bshape s1 s2).length = max s1.length s2.length := by
  unfold bshape
  simp only [List.length_zipWith]
  rw [length_padShape_left, length_padShape_right, Nat.min_self]

theorem dim_bshape_max (s t : List Nat) (j : Nat) (hj : j < max s.length t.length) :
    dim (bshape s t) j =
      max (dim (padShape (max s.length t.length) s) j) (dim (padShape (max s.length t.length) t) j) :=
  dim_zipWith _ _ _ _ (by rwa [length_padShape_left]) (by rwa [length_padShape_right])

theorem dim_bshape (s w : List Nat) (h : w.length ≤ s.length) (j : Nat) (hj : j < s.length) :
    dim (bshape s w) j = max (dim s j) (dim (padShape s.length w) j) := by
  rw [dim_bshape_max _ _ _ (by rwa [Nat.max_eq_left h]), Nat.max_eq_left h, padShape_self]

theorem length_pin (s idx : List Nat) (h : s.length ≤ idx.length) : (pin s idx).length = s.length := by
  rw [pin, List.length_zipWith, List.length_drop, Nat.sub_sub_self h, Nat.min_self]

theorem dim_pin (s idx : List Nat) (h : s.length ≤ idx.length) (j : Nat) (hj : j < s.length) :
    dim (pin s idx) j = if dim s j = 1 then 0 else dim idx (idx.length - s.length + j) := by
  rw [pin, dim_zipWith _ _ _ _ hj (by rwa [List.length_drop, Nat.sub_sub_self h]), dim_drop]

/-- an entry on an axis where the operand, padded to the rank of the index, has extent 1 is not read -/
theorem pin_modify (s idx : List Nat) (k : Nat) (g : Nat → Nat) (hl : s.length ≤ idx.length)
    (hk : dim (padShape idx.length s) k = 1) : pin s (idx.modify k g) = pin s idx := by
  have hl' : s.length ≤ (idx.modify k g).length := by rwa [List.length_modify]
  apply ext_dim (by rw [length_pin _ _ hl', length_pin _ _ hl])
  intro j hj
  rw [length_pin _ _ hl'] at hj
  rw [dim_pin _ _ hl' _ hj, dim_pin _ _ hl _ hj, List.length_modify, dim_modify]
  split
  · rfl
  · next h1 =>
    rw [if_neg]
    rintro ⟨e, _⟩
    rw [← e, dim_padShape, if_neg (by omega), Nat.add_sub_cancel_left] at hk
    exact h1 hk

/-- The source index of an index in two segments, the second of them in range: that one is its own source, since
where the extent is 1 the entry is 0 already. -/
theorem pin_append {ba ta bi x : List Nat} (hl : ba.length ≤ bi.length) (hx : InRange x ta) :
    pin (ba ++ ta) (bi ++ x) = pin ba bi ++ x := by
  unfold pin
  rw [List.length_append, List.length_append, InRange_length hx, Nat.add_sub_add_right,
    List.drop_append_of_le_length (Nat.sub_le _ _), List.zipWith_append (by rw [List.length_drop]; omega)]
  congr 1
  fun_induction InRange x ta with
  | case1 => rfl
  | case2 i is n ns ih =>
    have hi : (if n = 1 then 0 else i) = i := by have := hx.1; split <;> omega
    rw [List.zipWith_cons_cons, ih hx.2, hi]
  | case3 => exact hx.elim

theorem pin_of_InRange_drop {s idx : List Nat} {d : Nat} (h : InRange (idx.drop d) s) : pin s idx = idx.drop d := by
  have := pin_append (ba := []) (bi := idx.take d) (Nat.zero_le _) h
  rwa [List.take_append_drop] at this

/-! ### one operand of a broadcast, in closed form -/

/-- `X` after the repeat loop over its first `k` axes against an operand of shape `t`, both padded to the common
rank first -/
def stretchLead (k : Nat) (X : Tensor α) (t : List Nat) : Tensor α :=
  repA (padShape (max X.shape.length t.length) X.shape) (padShape (max X.shape.length t.length) t) k
    (addExtraDims X (max X.shape.length t.length - X.shape.length))

/-- `X` as the broadcast helpers return it when the other operand has shape `t`: the loop over all axes -/
def stretch (X : Tensor α) (t : List Nat) : Tensor α := stretchLead (max X.shape.length t.length) X t

/-- Rank and elements, whatever the two shapes and however many axes the loop runs over. The invariant never looks
at an extent of the operand as it grows: the loop repeats along axes on which `pin X.shape` ignores the index. -/
private theorem stretchLead_pinned (k : Nat) (X : Tensor α) (t : List Nat) :
    (stretchLead k X t).shape.length = max X.shape.length t.length ∧
      (stretchLead k X t).Is (stretchLead k X t).shape fun idx => X.get (pin X.shape idx) := by
  have hr := Nat.le_max_left X.shape.length t.length
  have hl : (addExtraDims X (max X.shape.length t.length - X.shape.length)).shape.length = _ :=
    length_padShape_left X.shape t
  refine repA_induction
    (P := fun Y => Y.shape.length = max X.shape.length t.length ∧ Y.Is Y.shape fun idx => X.get (pin X.shape idx))
    (fun Y k _ hk h => ⟨(List.length_modify ..).trans h.1,
      (repeatAxis_Is h.2 k _).congr rfl fun idx hi => congrArg X.get ?_⟩)
    ⟨hl, (addExtraDims_Is X _).congr rfl fun idx hi => congrArg X.get ?_⟩
  · have hi' : idx.length = max X.shape.length t.length := by
      rw [InRange_length hi, repeatAxis_shape, List.length_modify, h.1]
    exact pin_modify _ _ _ _ (hi' ▸ hr) (hi' ▸ hk)
  · exact (pin_of_InRange_drop (InRange_ones_append hi).1).symm

/-- the elements, whatever the two shapes and however many axes the loop runs over -/
theorem stretchLead_Is (k : Nat) (X : Tensor α) (t : List Nat) {u : List Nat} (hu : (stretchLead k X t).shape = u) :
    (stretchLead k X t).Is u fun idx => X.get (pin X.shape idx) :=
  (stretchLead_pinned k X t).2.congr hu fun _ _ => rfl

theorem length_stretchLead_shape (k : Nat) (X : Tensor α) (t : List Nat) :
    (stretchLead k X t).shape.length = max X.shape.length t.length :=
  (stretchLead_pinned k X t).1

/-- over the first `k` axes an extent 1 takes the other extent -/
theorem dim_stretchLead_shape {k j : Nat} (X : Tensor α) (t : List Nat) (hj : j < k) :
    dim (stretchLead k X t).shape j =
      if dim (padShape (max X.shape.length t.length) X.shape) j = 1 then
        dim (padShape (max X.shape.length t.length) t) j
      else dim (padShape (max X.shape.length t.length) X.shape) j :=
  dim_repA_shape (padShape _ X.shape) _ (addExtraDims X _) hj rfl

theorem dim_stretchLead_shape_of_le {k j : Nat} (X : Tensor α) (t : List Nat) (hj : k ≤ j) :
    dim (stretchLead k X t).shape j = dim (padShape (max X.shape.length t.length) X.shape) j :=
  dim_repA_shape_of_le _ _ _ hj

theorem stretch_WF (X : Tensor α) (t : List Nat) (h : X.WF) : (stretch X t).WF :=
  repA_WF _ _ _ _ (addExtraDims_WF h _)

omit [Inhabited α] in
theorem reshapeForMultidir_eq (A B : Tensor α) :
    reshapeForMultidir A B =
      (addExtraDims A (max A.shape.length B.shape.length - A.shape.length),
       addExtraDims B (max A.shape.length B.shape.length - B.shape.length)) := by
  have h0 (X : Tensor α) : addExtraDims X 0 = X := rfl
  unfold reshapeForMultidir Tensor.rank
  split
  · next h => rw [Nat.max_eq_left (Nat.le_of_lt h), Nat.sub_self, h0]
  · split
    · next h => rw [Nat.max_eq_right (Nat.le_of_lt h), Nat.sub_self, h0]
    · next h1 h2 =>
      rw [show A.shape.length = B.shape.length by omega, Nat.max_self, Nat.sub_self, h0, h0]

/-- the repeat loop over the first `k` axes of the two operands as `reshapeForMultidir` returns them:
`multidirBroadcast` runs it over all axes, MatMul's `broadcastBatch` over all but the last two -/
theorem repeatMulti_reshaped_eq (k : Nat) (A B : Tensor α) :
    repeatMulti (addExtraDims A (max A.shape.length B.shape.length - A.shape.length)).shape
        (addExtraDims B (max A.shape.length B.shape.length - B.shape.length)).shape k
        (addExtraDims A (max A.shape.length B.shape.length - A.shape.length))
        (addExtraDims B (max A.shape.length B.shape.length - B.shape.length)) =
      if ∀ j, j < k →
          dim (padShape (max A.shape.length B.shape.length) A.shape) j =
            dim (padShape (max A.shape.length B.shape.length) B.shape) j ∨
          dim (padShape (max A.shape.length B.shape.length) A.shape) j = 1 ∨
          dim (padShape (max A.shape.length B.shape.length) B.shape) j = 1 then
        .ok (stretchLead k A B.shape, stretchLead k B A.shape)
      else .error .broadcast := by
  rw [repeatMulti_eq, stretchLead, stretchLead, Nat.max_comm B.shape.length]
  rfl

theorem multidirBroadcast_eq (A B : Tensor α) :
    multidirBroadcast A B =
      if Compatible A.shape B.shape = true then .ok (stretch A B.shape, stretch B A.shape)
      else .error .broadcast := by
  unfold multidirBroadcast
  rw [reshapeForMultidir_eq]
  simp only [Tensor.rank]
  rw [show (addExtraDims A (max A.shape.length B.shape.length - A.shape.length)).shape.length =
      max A.shape.length B.shape.length from length_padShape_left _ _, repeatMulti_reshaped_eq,
    stretch, stretch, Nat.max_comm B.shape.length]
  simp only [compatible_iff]

theorem multidir_inv {A B A' B' : Tensor α} (h : multidirBroadcast A B = .ok (A', B')) :
    Compatible A.shape B.shape = true ∧ stretch A B.shape = A' ∧ stretch B A.shape = B' := by
  simpa only [ite_ok_eq_ok, Prod.mk.injEq] using (multidirBroadcast_eq A B).symm.trans h

theorem stretch_self (X : Tensor α) : stretch X X.shape = X := by
  unfold stretch stretchLead
  rw [Nat.max_self, Nat.sub_self, padShape_self, repA_self]
  rfl

theorem compatible_self (s : List Nat) : Compatible s s = true :=
  (compatible_iff s s).2 fun _ _ => .inl rfl

theorem compatible_comm (s t : List Nat) : Compatible s t = Compatible t s := by
  have swap {a b : Nat} (h : a = b ∨ a = 1 ∨ b = 1) : b = a ∨ b = 1 ∨ a = 1 :=
    h.elim (fun e => .inl e.symm) fun h => .inr h.symm
  rw [Bool.eq_iff_iff, compatible_iff, compatible_iff, Nat.max_comm t.length]
  exact forall_congr' fun j => imp_congr_right fun _ => ⟨swap, swap⟩

theorem bshape_comm (s t : List Nat) : bshape s t = bshape t s := by
  apply ext_dim (by rw [length_bshape, length_bshape, Nat.max_comm])
  intro j hj
  rw [length_bshape] at hj
  rw [dim_bshape_max _ _ _ hj, dim_bshape_max _ _ _ (Nat.max_comm _ _ ▸ hj), Nat.max_comm t.length, Nat.max_comm]

/-- for positive extents, an extent 1 that takes the other extent is the larger of the two -/
theorem dim_bshape_of_compatible {s t : List Nat} (hs : Pos s) (ht : Pos t) (hc : Compatible s t = true) {j : Nat}
    (hj : j < max s.length t.length) :
    dim (bshape s t) j =
      if dim (padShape (max s.length t.length) s) j = 1 then dim (padShape (max s.length t.length) t) j
      else dim (padShape (max s.length t.length) s) j := by
  rw [dim_bshape_max _ _ _ hj]
  have := (compatible_iff s t).1 hc j hj
  have := dim_padShape_pos hs (Nat.le_max_left _ t.length) hj
  have := dim_padShape_pos ht (Nat.le_max_right s.length _) hj
  split <;> omega

/-- both results of a broadcast have one shape (no positivity needed) -/
theorem stretch_shape_eq (A B : Tensor α) (hc : Compatible A.shape B.shape = true) :
    (stretch A B.shape).shape = (stretch B A.shape).shape := by
  unfold stretch
  apply ext_dim (by rw [length_stretchLead_shape, length_stretchLead_shape, Nat.max_comm])
  intro j hj
  rw [length_stretchLead_shape] at hj
  have := (compatible_iff _ _).1 hc j hj
  rw [dim_stretchLead_shape _ _ hj, dim_stretchLead_shape _ _ (Nat.max_comm .. ▸ hj), Nat.max_comm B.shape.length]
  split <;> split <;> omega

/-! ### multidirectional -/

theorem multidir_ok_iff (A B : Tensor α) :
    (multidirBroadcast A B).isOk = Compatible A.shape B.shape := by
  rw [multidirBroadcast_eq, isOk_ite_ok, Bool.decide_eq_true]

theorem multidir_error (A B : Tensor α) (h : Compatible A.shape B.shape = false) :
    multidirBroadcast A B = .error .broadcast := by
  rw [multidirBroadcast_eq, if_neg (by simp [h])]

/-- for positive extents the stretched shape is the broadcast shape -/
theorem stretch_Is_of_compatible (A : Tensor α) {t : List Nat} (hA : Pos A.shape) (ht : Pos t)
    (hc : Compatible A.shape t = true) :
    (stretch A t).Is (bshape A.shape t) (fun idx => A.get (pin A.shape idx)) := by
  refine stretchLead_Is _ A t (ext_dim (by rw [length_stretchLead_shape, length_bshape]) fun j hj => ?_)
  rw [length_stretchLead_shape] at hj
  rw [dim_stretchLead_shape _ _ hj, dim_bshape_of_compatible hA ht hc hj]

/-- the same for leading axes `ba` against `bb`, the trailing axes riding along (one operand of `broadcastBatch`):
shape, and element at an index `bi` of the leading axes followed by an index `x` of the trailing ones -/
theorem stretchLead_batch (ba bb ta tb : List Nat) (da : List α) (h : ta.length = tb.length)
    (hpa : Pos ba) (hpb : Pos bb) (hc : Compatible ba bb = true) :
    (stretchLead (max ba.length bb.length) (⟨ba ++ ta, da⟩ : Tensor α) (bb ++ tb)).shape = bshape ba bb ++ ta ∧
    ∀ bi x, bi.length = (bshape ba bb).length → InRange (bi ++ x) (bshape ba bb ++ ta) →
      (stretchLead (max ba.length bb.length) (⟨ba ++ ta, da⟩ : Tensor α) (bb ++ tb)).get (bi ++ x) =
        (⟨ba ++ ta, da⟩ : Tensor α).get (pin ba bi ++ x) := by
  have hk : max (ba ++ ta).length (bb ++ tb).length = max ba.length bb.length + ta.length := by
    rw [List.length_append, List.length_append, h]; omega
  have hs : (stretchLead (max ba.length bb.length) (⟨ba ++ ta, da⟩ : Tensor α) (bb ++ tb)).shape =
      bshape ba bb ++ ta := by
    apply ext_dim (by rw [length_stretchLead_shape, hk, List.length_append, length_bshape])
    intro j _
    rw [dim_append, length_bshape]
    split
    · next hj =>
      rw [dim_stretchLead_shape _ _ hj, hk, padShape_append, h, padShape_append, dim_append, dim_append,
        length_padShape_left, length_padShape_right, if_pos hj, if_pos hj, dim_bshape_of_compatible hpa hpb hc hj]
    · next hj =>
      rw [dim_stretchLead_shape_of_le _ _ (Nat.le_of_not_lt hj), hk, padShape_append, dim_append,
        length_padShape_left, if_neg hj]
  refine ⟨hs, fun bi x hbi hin => ?_⟩
  rw [(stretchLead_Is _ _ _ hs).2 _ hin]
  have hx := ((InRange_append _ _ _ _ hbi).1 hin).2
  rw [length_bshape] at hbi
  exact congrArg _ (pin_append (by omega) hx)

/-- both results, as functions of the index -/
theorem multidir_Is (A B : Tensor α) (hA : Pos A.shape) (hB : Pos B.shape) (hc : Compatible A.shape B.shape = true) :
    (stretch A B.shape).Is (bshape A.shape B.shape) (fun idx => A.get (pin A.shape idx)) ∧
    (stretch B A.shape).Is (bshape A.shape B.shape) (fun idx => B.get (pin B.shape idx)) :=
  ⟨stretch_Is_of_compatible A hA hB hc,
    bshape_comm B.shape A.shape ▸ stretch_Is_of_compatible B hB hA (compatible_comm _ _ ▸ hc)⟩

theorem multidir_shape (A B A' B' : Tensor α) (hA : Pos A.shape) (hB : Pos B.shape)
    (h : multidirBroadcast A B = .ok (A', B')) :
    A'.shape = bshape A.shape B.shape ∧ B'.shape = bshape A.shape B.shape := by
  obtain ⟨hc, rfl, rfl⟩ := multidir_inv h
  exact ⟨(multidir_Is A B hA hB hc).1.1, (multidir_Is A B hA hB hc).2.1⟩

theorem multidir_get (A B A' B' : Tensor α) (hA : Pos A.shape) (hB : Pos B.shape)
    (h : multidirBroadcast A B = .ok (A', B')) (idx : List Nat)
    (hidx : InRange idx (bshape A.shape B.shape)) :
    A'.get idx = A.get (pin A.shape idx) ∧ B'.get idx = B.get (pin B.shape idx) := by
  obtain ⟨hc, rfl, rfl⟩ := multidir_inv h
  exact ⟨(multidir_Is A B hA hB hc).1.2 idx hidx, (multidir_Is A B hA hB hc).2.2 idx hidx⟩

theorem multidir_WF (A B A' B' : Tensor α) (hA : A.WF) (hB : B.WF)
    (h : multidirBroadcast A B = .ok (A', B')) : A'.WF ∧ B'.WF := by
  obtain ⟨_, rfl, rfl⟩ := multidir_inv h
  exact ⟨stretch_WF A _ hA, stretch_WF B _ hB⟩

/-- broadcasting two tensors of the same shape is the identity -/
theorem multidir_same (A B : Tensor α) (h : A.shape = B.shape) :
    multidirBroadcast A B = .ok (A, B) := by
  rw [multidirBroadcast_eq, if_pos (h ▸ compatible_self _), ← h, stretch_self, h, stretch_self]

/-! ### unidirectional -/

/-- what `unidirBroadcast` checks: `t` is not longer than `s` and, aligned at the last axes, every extent
of `t` is that of `s` or 1 -/
def UniCompat (s t : List Nat) : Prop :=
  t.length ≤ s.length ∧
    ∀ j, j < s.length → dim s j = dim (padShape s.length t) j ∨ dim (padShape s.length t) j = 1

instance (s t : List Nat) : Decidable (UniCompat s t) := inferInstanceAs (Decidable (_ ∧ _))

/-- … without the padding: the extents of `t` against the last `t.length` extents of `s` -/
theorem uniCompat_iff_dim (s t : List Nat) :
    UniCompat s t ↔ t.length ≤ s.length ∧
      ∀ j, j < t.length → dim s (s.length - t.length + j) = dim t j ∨ dim t j = 1 := by
  constructor
  · rintro ⟨hle, h⟩
    refine ⟨hle, fun j hj => ?_⟩
    have := h (s.length - t.length + j) (by omega)
    rwa [dim_padShape, if_neg (by omega), Nat.add_sub_cancel_left] at this
  · rintro ⟨hle, h⟩
    refine ⟨hle, fun j hj => ?_⟩
    rw [dim_padShape]
    split
    · exact .inr rfl
    · next hj' =>
      have := h (j - (s.length - t.length)) (by omega)
      rwa [Nat.add_sub_cancel' (Nat.le_of_not_lt hj')] at this

theorem unidirBroadcast_eq (A B : Tensor α) :
    unidirBroadcast A B =
      if UniCompat A.shape B.shape then .ok (A, stretch B A.shape) else .error .broadcast := by
  unfold unidirBroadcast Tensor.rank
  split
  · next hlt => rw [if_neg (fun h : UniCompat _ _ => Nat.not_lt.2 h.1 hlt)]
  · next hlt =>
    have hle := Nat.le_of_not_lt hlt
    have hsh : (addExtraDims B (A.shape.length - B.shape.length)).shape = padShape A.shape.length B.shape := rfl
    simp only [ite_addExtraDims, hsh, repeatUni_eq]
    by_cases hc : UniCompat A.shape B.shape
    · rw [if_pos hc, if_pos hc.2, stretch, stretchLead, Nat.max_eq_right hle, padShape_self]
    · rw [if_neg hc, if_neg (fun h => hc ⟨hle, h⟩)]

theorem unidir_inv {A B A' B' : Tensor α} (h : unidirBroadcast A B = .ok (A', B')) :
    UniCompat A.shape B.shape ∧ A = A' ∧ stretch B A.shape = B' := by
  simpa only [ite_ok_eq_ok, Prod.mk.injEq] using (unidirBroadcast_eq A B).symm.trans h

theorem uniCompat_self (s : List Nat) : UniCompat s s :=
  ⟨Nat.le_refl _, fun _ _ => .inl (by rw [padShape_self])⟩

theorem unidir_same (A B : Tensor α) (h : A.shape = B.shape) : unidirBroadcast A B = .ok (A, B) := by
  rw [unidirBroadcast_eq, if_pos (h ▸ uniCompat_self _), h, stretch_self]

/-- for positive extents this is what ONNX asks of a unidirectional broadcast: the shapes are compatible and the
broadcast shape is the first one -/
theorem uniCompat_iff (s t : List Nat) (hs : Pos s) (ht : Pos t) :
    UniCompat s t ↔ Compatible s t = true ∧ bshape s t = s := by
  constructor
  · rintro ⟨hle, h⟩
    have hm := Nat.max_eq_left hle
    refine ⟨(compatible_iff s t).2 ?_, ext_dim (by rw [length_bshape, hm]) fun j hj => ?_⟩
    · rw [hm, padShape_self]
      exact fun j hj => (h j hj).imp_right .inr
    · rw [length_bshape, hm] at hj
      have := h j hj
      have := Pos_dim hs hj
      rw [dim_bshape s t hle j hj]
      omega
  · rintro ⟨hc, hb⟩
    have hle : t.length ≤ s.length := by
      have := length_bshape s t
      rw [hb] at this
      omega
    rw [compatible_iff, Nat.max_eq_left hle, padShape_self] at hc
    refine ⟨hle, fun j hj => ?_⟩
    have := hc j hj
    have := dim_bshape s t hle j hj
    rw [hb] at this
    have := dim_padShape_pos ht hle hj
    omega

theorem unidir_fst (A B A' B' : Tensor α) (h : unidirBroadcast A B = .ok (A', B')) : A' = A :=
  (unidir_inv h).2.1.symm

theorem unidir_error (A B : Tensor α) (e : Err) (h : unidirBroadcast A B = .error e) : e = .broadcast :=
  (ite_ok_eq_error.1 (unidirBroadcast_eq A B ▸ h)).2.symm

theorem unidir_ok_iff (A B : Tensor α) (hA : Pos A.shape) (hB : Pos B.shape) :
    (unidirBroadcast A B).isOk = (Compatible A.shape B.shape && (bshape A.shape B.shape == A.shape)) := by
  rw [unidirBroadcast_eq, isOk_ite_ok, Bool.eq_iff_iff, decide_eq_true_iff, Bool.and_eq_true, beq_iff_eq,
    uniCompat_iff _ _ hA hB]

theorem stretch_Is_of_uniCompat {s : List Nat} (B : Tensor α) (hc : UniCompat s B.shape) :
    (stretch B s).Is s (fun idx => B.get (pin B.shape idx)) := by
  have hm := Nat.max_eq_right hc.1
  refine stretchLead_Is _ B s (ext_dim (by rw [length_stretchLead_shape, hm]) fun j hj => ?_)
  rw [length_stretchLead_shape, hm] at hj
  rw [dim_stretchLead_shape _ _ (hm.symm ▸ hj), hm, padShape_self]
  have := hc.2 j hj
  split <;> omega

/-- a dense operand, broadcast to `s`, is the table of its pinned elements -/
theorem stretch_eq_ofFn {s : List Nat} (B : Tensor α) (hc : UniCompat s B.shape) (hW : B.WF) :
    stretch B s = ofFn s fun idx => B.get (pin B.shape idx) :=
  (stretch_Is_of_uniCompat B hc).eq_ofFn (stretch_WF B _ hW)

/-- the source index of a unidirectionally broadcast operand is in range -/
theorem InRange_pin {s t idx : List Nat} (hc : UniCompat s t) (hi : InRange idx s) : InRange (pin t idx) t := by
  obtain ⟨hle, h⟩ := (uniCompat_iff_dim s t).1 hc
  have hlen := InRange_length hi
  rw [InRange_dim] at hi ⊢
  refine ⟨length_pin _ _ (by omega), fun j hj => ?_⟩
  rw [dim_pin _ _ (by omega) _ hj]
  split
  · next h1 => rw [h1]; exact Nat.one_pos
  · next h1 =>
    have hp := h j hj
    have hb := hi.2 (s.length - t.length + j) (by omega)
    rw [hlen]
    omega

omit [Inhabited α] in
/-- the broadcast shape of compatible positive shapes is positive, and each of the two broadcasts to it -/
theorem bshape_spec {s t : List Nat} (hc : Compatible s t = true) (hs : Pos s) (ht : Pos t) :
    Pos (bshape s t) ∧ UniCompat (bshape s t) s ∧ UniCompat (bshape s t) t := by
  have hl := length_bshape s t
  have key (j : Nat) (hj : j < max s.length t.length) :
      0 < dim (bshape s t) j ∧
      (dim (bshape s t) j = dim (padShape (max s.length t.length) s) j ∨
        dim (padShape (max s.length t.length) s) j = 1) ∧
      (dim (bshape s t) j = dim (padShape (max s.length t.length) t) j ∨
        dim (padShape (max s.length t.length) t) j = 1) := by
    have := dim_padShape_pos hs (Nat.le_max_left _ t.length) hj
    have := dim_padShape_pos ht (Nat.le_max_right s.length _) hj
    have := (compatible_iff s t).1 hc j hj
    rw [dim_bshape_max _ _ _ hj]
    omega
  unfold UniCompat
  rw [hl]
  exact ⟨Pos_of_dim fun j hj => (key j (hl ▸ hj)).1, ⟨Nat.le_max_left _ _, fun j hj => (key j hj).2.1⟩,
    ⟨Nat.le_max_right _ _, fun j hj => (key j hj).2.2⟩⟩

-- the proof does not use `hA`, `hB`: what `B'` holds follows from the closed form alone
set_option linter.unusedVariables false in
theorem unidir_get (A B A' B' : Tensor α) (hA : Pos A.shape) (hB : Pos B.shape)
    (h : unidirBroadcast A B = .ok (A', B')) :
    B'.shape = A.shape ∧ ∀ idx, InRange idx A.shape → B'.get idx = B.get (pin B.shape idx) := by
  obtain ⟨hc, _, rfl⟩ := unidir_inv h
  exact stretch_Is_of_uniCompat B hc

theorem unidir_WF (A B A' B' : Tensor α) (hB : B.WF) (h : unidirBroadcast A B = .ok (A', B')) : B'.WF := by
  obtain ⟨_, _, rfl⟩ := unidir_inv h
  exact stretch_WF B _ hB

end Gonnx.Proofs
