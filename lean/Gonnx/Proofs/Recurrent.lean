import Gonnx.Ops.Recurrent
import Gonnx.Spec.Recurrent
import Gonnx.Proofs.MatMul
import Gonnx.Proofs.GSlice
import Gonnx.Proofs.Index
import Gonnx.Proofs.MapM
/-
C06: RNN / GRU / LSTM equal the ONNX recurrences.
Every intermediate tensor of a step is brought to the form `ofFn [batch, hidden] F` (`zipT_ofFn`, `zipT_ofFn_get`,
`map_ofFn`, `gemmT_blk`), with states and rows read at `[idx.getD 0 0, idx.getD 1 0]` exactly as the specifications
read them, so that the proof about a step ends in `rfl`. A gate's weights, biases and peepholes are blocks of the
packed inputs (`blk`, whatever the rank); the affine part of every gate is `gate_bind`; a state is a
dense `(batch, hidden)` matrix (`StateOk`). The three specifications are instances of one scheme (`recSpec`), the
three loops of one theorem (`runSteps_iterate`). The end-to-end proofs `rnnOp_spec`, `gruOp_spec`, `lstmOp_spec` go
through the operator's `do` block line by line (`bind_of_ok`, `act_bind`, `optM_bind`) up to the loop; what differs
per operator is the proof about its step, the first goal of `refine runSteps_iterate …`, and only there is the
optional peephole input of LSTM split into its cases.
On the specification's side a step sends every row of the batch through a cell (`rowStep`; `gruCell`, `lstmC`,
`lstmH`), and a cell reads only the in-range entries of its rows (`*_congr`): this is what Proofs/Batch2Rec.lean uses.
-/
namespace Gonnx.Proofs.Recurrent
open Gonnx Gonnx.Spec Gonnx.Proofs Gonnx.Proofs.MatMul
variable {α : Type} [Inhabited α]

/-! ### the time loop -/

omit [Inhabited α] in
theorem runSteps_append {σ : Type} (step : σ → Tensor α → Res (σ × Tensor α)) (s : σ) (xs ys : List (Tensor α)) :
    runSteps step s (xs ++ ys) =
      match runSteps step s xs with
      | .error e => .error e
      | .ok (s1, h1) =>
        match runSteps step s1 ys with
        | .error e => .error e
        | .ok (s2, h2) => .ok (s2, h1 ++ h2) := by
  induction xs generalizing s with
  | nil =>
    simp only [List.nil_append, runSteps]
    cases runSteps step s ys <;> rfl
  | cons x xs ih =>
    simp only [List.cons_append, runSteps]
    cases step s x with
    | error e => rfl
    | ok v =>
      obtain ⟨s', h⟩ := v
      simp only [ih]
      cases runSteps step s' xs with
      | error e => rfl
      | ok w =>
        obtain ⟨s1, h1⟩ := w
        simp only
        cases runSteps step s1 ys <;> rfl

omit [Inhabited α] in
theorem iterate_append {σ : Type} (step : Nat → σ → σ) (hid : σ → Tensor α) (n m t : Nat) (s : σ) :
    Spec.iterate step hid (n + m) t s =
      let r1 := Spec.iterate step hid n t s
      let r2 := Spec.iterate step hid m (t + n) r1.2
      (r1.1 ++ r2.1, r2.2) := by
  induction n generalizing t s with
  | zero => rw [Nat.zero_add]; rfl
  | succ n ih =>
    rw [Nat.add_right_comm, Spec.iterate, ih, Nat.add_right_comm t 1 n]
    rfl

/-! ### ExtractMatrices -/

/-- block `i` of a packed tensor `(1, n·hidden, rest…)`, as `extractMatrices` returns it: a weight matrix
(`rest = [input]` or `[hidden]`), a bias or peephole vector (`rest = []`) -/
def blk (M : Tensor α) (hidden : Nat) (rest : List Nat) (i : Nat) : Tensor α :=
  ofFn (hidden :: rest) fun idx => M.get (0 :: (i * hidden + idx.headD 0) :: idx.tail)

theorem blk_get (M : Tensor α) (h : Nat) (rest : List Nat) (g j : Nat) (idx : List Nat) (hj : j < h)
    (hidx : InRange idx rest) : (blk M h rest g).get (j :: idx) = M.get (0 :: (g * h + j) :: idx) :=
  get_ofFn _ _ _ ⟨hj, hidx⟩

/-- `extractMatrices` on a packed tensor whose rank is `nDims`; `hidden ≥ 2` since a block of extent 1 would lose
its axis -/
theorem extractMatrices_eq (M : Tensor α) (n hidden : Nat) (rest : List Nat)
    (hs : M.shape = 1 :: n * hidden :: rest) (hh : 2 ≤ hidden) (hr : Pos rest) :
    extractMatrices M n (rest.length + 2) hidden = .ok ((List.range n).map (blk M hidden rest)) := by
  unfold extractMatrices
  refine mapM_ok_of_forall _ _ _ fun i hi => ?_
  have hle : (i + 1) * hidden ≤ n * hidden := Nat.mul_le_mul_right hidden (List.mem_range.1 hi)
  rw [Nat.succ_mul] at hle
  have hS : Pos (n * hidden :: rest) := Pos_cons (by omega) hr
  refine (GSlice.gSlice_at M 1 0 (n * hidden :: rest) (i * hidden :: List.replicate rest.length 0)
    (hidden :: rest) _ hs Nat.one_pos hS (by simp) (by simp) rfl (fun j hj => ?_) ⟨0, by simp, hh⟩).trans ?_
  · match j with
    | 0 =>
      refine .inr ⟨?_, hh, hle⟩
      simp only [dim_cons_zero, Nat.succ_mul, Int.natCast_add]
      rfl
    | j + 1 =>
      exact .inl ⟨getD_replicate_self _ none j, by rw [dim_cons_succ, dim_replicate, ite_self],
        by rw [dim_cons_succ, dim_cons_succ]⟩
  · refine congrArg _ (ofFn_congr fun idx hidx => ?_)
    match idx, hidx with
    | j :: idx, hidx => rw [List.zipWith_cons_cons, ← InRange_length hidx.2, zipWith_add_zeros]; rfl

theorem extractMatrices_get (M : Tensor α) (n hidden c : Nat) (hh : 2 ≤ hidden) (hc : 1 ≤ c)
    (hs : M.shape = [1, n * hidden, c]) (ms : List (Tensor α))
    (h : extractMatrices M n 3 hidden = .ok ms) (i : Nat) (hi : i < n) :
    ∃ m, ms[i]? = some m ∧ m.shape = [hidden, c] ∧ m.WF ∧
      ∀ j k, j < hidden → k < c → m.get [j, k] = M.get [0, i * hidden + j, k] := by
  cases (extractMatrices_eq M n hidden [c] hs hh (Pos_cons hc Pos_nil)).symm.trans h
  exact ⟨blk M hidden [c] i, by simp [hi], rfl, ofFn_WF _ _,
    fun j k hj hk => blk_get M hidden [c] i j [k] hj ⟨hk, trivial⟩⟩

/-! ### tensors as functions of the index -/

theorem zipT_ofFn (f : α → α → α) (s : List Nat) (fa fb : List Nat → α) :
    zipT f (ofFn s fa) (ofFn s fb) = .ok (ofFn s fun idx => f (fa idx) (fb idx)) :=
  zipSame_ofFn f s fa fb

/-- the kernel on a matrix given by its entries and a dense matrix of the same shape, which is read at
`[idx.getD 0 0, idx.getD 1 0]` as the specifications read their states -/
theorem zipT_ofFn_get (f : α → α → α) (m n : Nat) (fa : List Nat → α) (b : Tensor α)
    (hb : b.shape = [m, n]) (hW : b.WF) :
    zipT f (ofFn [m, n] fa) b = .ok (ofFn [m, n] fun idx => f (fa idx) (b.get [idx.getD 0 0, idx.getD 1 0])) := by
  conv => lhs; rw [← ofFn_get_self b hW, hb]
  rw [zipT_ofFn]
  exact congrArg _ (ofFn_congr fun idx hidx =>
    congrArg (fun i => f (fa idx) (b.get i)) (InRange2_inv idx _ _ hidx).1)

theorem ofFn_get2 (b h : Nat) (hf : List Nat → α) (i j : Nat) (hi : i < b) (hj : j < h) :
    (ofFn [b, h] hf).get [i, j] = hf [i, j] :=
  get_ofFn _ _ _ (by simp [InRange, hi, hj])

/-! ### Gemm as used by the recurrent operators -/
/-- block `k` of a packed `(1, n·h)` tensor (a peephole vector) unidirectionally broadcast against a `(b, h)` matrix -/
theorem unidir_blk2 (b h : Nat) (c : Tensor α) (hc : c.shape = [b, h]) (p : Tensor α) (k : Nat) :
    unidirBroadcast c (blk p h [] k) = .ok (c, ofFn [b, h] fun idx => p.get [0, k * h + idx.getD 1 0]) := by
  have hu : UniCompat c.shape (blk p h [] k).shape := hc ▸ vec_uniCompat [b, h] h (by simp) (.inl rfl)
  rw [unidirBroadcast_eq, if_pos hu, stretch_eq_ofFn _ hu (ofFn_WF _ _), hc]
  refine congrArg (fun t => Except.ok (c, t)) (ofFn_congr fun idx hidx => ?_)
  rw [show (blk p h [] k).shape = [h] from rfl, pin_vec_exact h idx [b, h] hidx (by simp) rfl]
  exact blk_get p h [] k _ [] (InRange2_inv idx _ _ hidx).2.2 trivial

/-- `Gemm{transB, alpha = beta = 1}` of a `(m, k)` matrix with a `(n, k)` weight matrix and a `(n)` bias -/
theorem gemmT_ok (A : Arith α) (one : α) (hone : ∀ v, A.mul v one = v) (x w b : Tensor α) (m k n : Nat)
    (hx : x.shape = [m, k]) (hw : w.shape = [n, k]) (hb : b.shape = [n]) (hbW : b.WF) :
    gemmT A one x w b = .ok (ofFn [m, n] fun idx =>
      A.add (sumRange A k fun l => A.mul (x.get [idx.getD 0 0, l]) (w.get [idx.getD 1 0, l]))
        (b.get [idx.getD 1 0])) := by
  unfold gemmT
  rw [gemmOp_eq]
  simp only [Bool.false_eq_true, if_false, if_true]
  rw [mm2_transB A x w m k n hx hw, ok_bind]
  rw [gemmTail_some A one one _ _ b hbW (hb ▸ vec_uniCompat [m, n] n (by simp) (.inl rfl))]
  refine congrArg _ (ofFn_congr fun idx hidx => ?_)
  rw [hone, hone, hb, pin_vec_exact n idx [m, n] hidx (by simp) rfl]
  rfl

/-! ### optional inputs -/

/-- the packed bias the operators slice: `B`, or zeros of length `N` -/
abbrev biasT (zero : α) (B : Option (Tensor α)) (N : Nat) : Tensor α := B.getD (zeroTensor zero [1, N])

omit [Inhabited α] in
theorem zeroTensor_eq_ofFn (zero : α) (s : List Nat) : zeroTensor zero s = ofFn s fun _ => zero :=
  congrArg (Tensor.mk s) (by rw [List.map_const', allIdx_length])

omit [Inhabited α] in
theorem biasT_shape (zero : α) (B : Option (Tensor α)) (N : Nat) (hB : ∀ b, B = some b → b.shape = [1, N]) :
    (biasT zero B N).shape = [1, N] := by
  cases B with
  | none => rfl
  | some b => exact hB b rfl

theorem biasT_get (zero : α) (B : Option (Tensor α)) (N x : Nat) (hx : x < N) :
    (biasT zero B N).get [0, x] = match B with | some b => b.get [0, x] | none => zero := by
  cases B with
  | none =>
    show (zeroTensor zero [1, N]).get [0, x] = zero
    rw [zeroTensor_eq_ofFn]
    exact get_ofFn _ _ _ ⟨Nat.one_pos, hx, trivial⟩
  | some b => rfl

/-- the affine half of a gate, `x · M_gᵀ + b_g'`, in the terms of the specification: the rows `xr` of `x` against
block `g` of `M`, plus entry `g'·h + j` of the optional packed bias -/
theorem gemmT_blk (A : Arith α) (one : α) (hone : ∀ v, A.mul v one = v) (x M : Tensor α) (B : Option (Tensor α))
    (N m k h g g' : Nat) (hx : x.shape = [m, k]) (hN : (g' + 1) * h ≤ N) (xr : Nat → Nat → α)
    (hxr : ∀ i l, i < m → l < k → x.get [i, l] = xr i l) :
    gemmT A one x (blk M h [k] g) (blk (biasT A.zero B N) h [] g') = .ok (ofFn [m, h] fun idx =>
      A.add (dotRow A (xr (idx.getD 0 0)) M (g * h + idx.getD 1 0) k)
        (match B with | some b => b.get [0, g' * h + idx.getD 1 0] | none => A.zero)) := by
  rw [gemmT_ok A one hone x (blk M h [k] g) (blk (biasT A.zero B N) h [] g') m k h hx rfl rfl (ofFn_WF _ _)]
  refine congrArg _ (ofFn_congr fun idx hidx => ?_)
  obtain ⟨_, h0, h1⟩ := InRange2_inv idx _ _ hidx
  rw [blk_get _ h [] g' _ [] h1 trivial, biasT_get _ _ _ _ (by rw [Nat.succ_mul] at hN; omega)]
  refine congrArg (fun v => A.add v _) (sumRange_congr A k _ _ fun l hl => ?_)
  rw [blk_get M h [k] g _ [l] h1 ⟨hl, trivial⟩, hxr _ l h0 hl]

theorem dropDir_some (h : Tensor α) (s : List Nat) (hs : h.shape = 1 :: s) (hW : h.WF) :
    dropDir h = .ok (ofFn s fun idx => h.get (0 :: idx)) := by
  have hp : prod s = prod h.shape := by rw [hs, prod_cons, Nat.one_mul]
  simp only [dropDir, hs]
  rw [if_pos (hs ▸ hp), reshape_eq_ofFn h hW s hp (0 :: ·)]
  intro idx _
  rw [hs, ravel, Nat.zero_mul, Nat.zero_add]

/-- `h0` / `init` of the specifications -/
def initS (zero : α) (H0 : Option (Tensor α)) (b hd : Nat) : Tensor α :=
  match H0 with
  | some h => ofFn [b, hd] fun idx => h.get (0 :: idx)
  | none => ofFn [b, hd] fun _ => zero

theorem dropDir_initS (zero : α) (H0 : Option (Tensor α)) (b hd : Nat)
    (hs : ∀ h, H0 = some h → h.shape = [1, b, hd]) (hW : ∀ h, H0 = some h → h.WF) :
    dropDir (H0.getD (zeroTensor zero [1, b, hd])) = .ok (initS zero H0 b hd) := by
  cases H0 with
  | none =>
    simp only [Option.getD_none, dropDir, zeroTensor, prod, Nat.one_mul, if_true]
    exact congrArg _ (zeroTensor_eq_ofFn zero [b, hd])
  | some h => exact dropDir_some h [b, hd] (hs h rfl) (hW h rfl)

def StateOk (d : RecDims) (H : Tensor α) : Prop := H.shape = [d.batch, d.hidden] ∧ H.WF

theorem initS_ok (zero : α) (H0 : Option (Tensor α)) (d : RecDims) :
    StateOk d (initS zero H0 d.batch d.hidden) := by
  cases H0 <;> exact ⟨rfl, ofFn_WF _ _⟩

/-! ### time slices -/

omit [Inhabited α] in
theorem pos_of_two_le_mul {a b : Nat} (h : 2 ≤ a * b) : 1 ≤ a ∧ 1 ≤ b := by
  refine ⟨Nat.pos_of_ne_zero ?_, Nat.pos_of_ne_zero ?_⟩
  · rintro rfl; omega
  · rintro rfl; omega

theorem two_le_mul (a b : Nat) (ha : 1 ≤ a) (hb : 2 ≤ b) : 2 ≤ a * b :=
  Nat.le_trans hb (Nat.le_mul_of_pos_left b ha)

/-- what `timeSlice X t` returns -/
def xSlice (X : Tensor α) (d : RecDims) (t : Nat) : Tensor α :=
  ofFn [d.batch, d.input] fun idx => X.get (t :: idx)

theorem xSlice_get (X : Tensor α) (d : RecDims) (t i l : Nat) (hi : i < d.batch) (hl : l < d.input) :
    (xSlice X d t).get [i, l] = X.get [t, i, l] :=
  ofFn_get2 _ _ _ i l hi hl

theorem isEmpty_map_range {β : Type} (f : Nat → β) {n : Nat} (hn : n ≠ 0) : ((List.range n).map f).isEmpty = false :=
  isEmpty_of_length_pos (by rw [List.length_map, List.length_range]) (Nat.pos_of_ne_zero hn)

/-- `timeSlices` for `batch · input ≥ 2` (a time slice with a single element would become a scalar) -/
theorem timeSlices_x (X : Tensor α) (d : RecDims) (hs : X.shape = [d.seq, d.batch, d.input])
    (h2 : 2 ≤ d.batch * d.input) : timeSlices X = .ok ((List.range d.seq).map (xSlice X d)) := by
  have hS : Pos [d.batch, d.input] := (Pos2 _ _).2 (pos_of_two_le_mul h2)
  unfold timeSlices
  rw [hs]
  exact mapM_ok_of_forall _ _ _ fun t ht => GSlice.gSlice_row X d.seq t [d.batch, d.input] 2 hs
    (List.mem_range.1 ht) hS (Nat.le_refl 2) (exists_dim_ge_two _ hS (by simpa [prod] using h2))

/-! ### stacking the per-step outputs -/

/-- the last step of `stackY`: a dense `(seq·batch, hidden)` matrix whose block `t` is the output of step `t`,
read as `(seq, 1, batch, hidden)`, is `stackSpec` -/
theorem stack_reshape (outs : List (Tensor α)) (d : RecDims) (y : Tensor α)
    (ys : y.shape = [d.seq * d.batch, d.hidden]) (yW : y.WF)
    (yg : ∀ t i j, t < d.seq → i < d.batch → j < d.hidden →
      y.get [t * d.batch + i, j] = (outs.getD t ⟨[], []⟩).get [i, j]) :
    (if prod [d.seq, 1, d.batch, d.hidden] = prod y.shape then
        Except.ok { y with shape := [d.seq, 1, d.batch, d.hidden] } else .error .shape : Res (Tensor α)) =
      .ok (stackSpec outs d) := by
  have hp : prod [d.seq, 1, d.batch, d.hidden] = prod y.shape := by rw [ys]; simp [prod, Nat.mul_assoc]
  rw [if_pos hp, reshape_eq_ofFn y yW _ hp fun idx => [idx.getD 0 0 * d.batch + idx.getD 2 0, idx.getD 3 0]]
  · refine congrArg _ (ofFn_congr fun idx hidx => ?_)
    obtain ⟨_, i0, _, i2, i3⟩ := InRange4_inv idx _ _ _ _ hidx
    exact yg _ _ _ i0 i2 i3
  · intro idx hidx
    obtain ⟨e, _, i1, _, _⟩ := InRange4_inv idx _ _ _ _ hidx
    rw [e, Nat.lt_one_iff.1 i1, ys]
    simp [ravel, Nat.add_mul, Nat.mul_assoc, Nat.add_assoc]

theorem stackY_eq (outs : List (Tensor α)) (d : RecDims) (hlen : outs.length = d.seq)
    (hseq : 1 ≤ d.seq) (hsh : ∀ t ∈ outs, t.shape = [d.batch, d.hidden]) (hwf : ∀ t ∈ outs, t.WF) :
    stackY outs d.seq d.batch d.hidden = .ok (stackSpec outs d) := by
  match outs, hlen with
  | [], hlen => exact absurd hseq (hlen ▸ Nat.not_succ_le_zero 0)
  | [o], hlen =>
    -- a single output is passed on as it is
    have ho := List.mem_singleton_self o
    have h1 : d.seq = 1 := hlen.symm
    refine stack_reshape [o] d o (by rw [hsh o ho, h1, Nat.one_mul]) (hwf o ho) fun t i j ht _ _ => ?_
    obtain rfl : t = 0 := Nat.lt_one_iff.1 (h1 ▸ ht)
    rw [Nat.zero_mul, Nat.zero_add]
    rfl
  | o1 :: o2 :: rest, hlen =>
    simp only [stackY, Index.gConcat0_same _ d.batch [d.hidden] (List.cons_ne_nil _ _) hsh]
    refine stack_reshape _ d _ (by rw [ofFn_shape, hlen]) (ofFn_WF _ _) fun t i j ht hi hj => ?_
    have hlt : t * d.batch + i < (o1 :: o2 :: rest).length * d.batch :=
      Nat.lt_of_lt_of_le (by rw [Nat.succ_mul]; omega) (Nat.mul_le_mul_right _ (hlen ▸ ht))
    rw [ofFn_get2 _ _ _ _ _ hlt hj]
    exact Index.find_same 0 d.batch _ _ t i (fun x hx => by rw [hsh x hx]; rfl) (hlen ▸ ht) hi

theorem finalState_eq (H : Tensor α) (b h : Nat) (hs : H.shape = [b, h]) (hW : H.WF) :
    finalState H b h = .ok (ofFn [1, b, h] fun idx => H.get (idx.drop 1)) := by
  have hp : prod [1, b, h] = prod H.shape := by rw [hs, prod_cons, Nat.one_mul]
  rw [finalState, if_pos hp, reshape_eq_ofFn H hW [1, b, h] hp (·.drop 1)]
  intro idx hidx
  obtain ⟨e, i0, _, _⟩ := InRange3_inv idx _ _ _ hidx
  rw [e, Nat.lt_one_iff.1 i0, hs, ravel, Nat.zero_mul, Nat.zero_add]
  rfl

/-! ### the model loop against the specification's iteration -/

/-- The time loop of the three operators and what follows it (`k`). If the model's step, on every state satisfying
`Inv`, returns the specification's next state with its hidden part as the output, and these hidden parts are dense
`(batch, hidden)` matrices, then `runSteps` returns the final state and the outputs of `Spec.iterate`; about them `k`
may assume that the state satisfies `Inv` and that `stackY` of the outputs is `stackSpec`. -/
theorem runSteps_iterate {σ γ : Type} (d : RecDims) (xs : Nat → Tensor α) {mstep : σ → Tensor α → Res (σ × Tensor α)}
    (sstep : Nat → σ → σ) (hid : σ → Tensor α) (Inv : σ → Prop) {s0 : σ} {k : σ × List (Tensor α) → Res γ} {r : γ}
    (hsq : d.seq ≠ 0) (h0 : Inv s0) (hinv : ∀ t s, Inv s → Inv (sstep t s)) (hhid : ∀ s, Inv s → StateOk d (hid s))
    (hstep : ∀ t s, t < d.seq → Inv s → mstep s (xs t) = .ok (sstep t s, hid (sstep t s)))
    (hk : Inv (Spec.iterate sstep hid d.seq 0 s0).2 →
      stackY (Spec.iterate sstep hid d.seq 0 s0).1 d.seq d.batch d.hidden =
        .ok (stackSpec (Spec.iterate sstep hid d.seq 0 s0).1 d) →
      k ((Spec.iterate sstep hid d.seq 0 s0).2, (Spec.iterate sstep hid d.seq 0 s0).1) = .ok r) :
    runSteps mstep s0 ((List.range d.seq).map xs) >>= k = .ok r := by
  have key : ∀ n t s, t + n ≤ d.seq → Inv s →
      runSteps mstep s ((List.range' t n).map xs) =
        .ok ((Spec.iterate sstep hid n t s).2, (Spec.iterate sstep hid n t s).1) ∧
      (Spec.iterate sstep hid n t s).1.length = n ∧
      (∀ o ∈ (Spec.iterate sstep hid n t s).1, StateOk d o) ∧ Inv (Spec.iterate sstep hid n t s).2 := by
    intro n
    induction n with
    | zero => intro t s _ hs; exact ⟨rfl, rfl, by simp [Spec.iterate], hs⟩
    | succ n ih =>
      intro t s ht hs
      have hs' := hinv t s hs
      obtain ⟨i1, i2, i3, i4⟩ := ih (t + 1) (sstep t s) (by omega) hs'
      simp only [List.range'_succ, List.map_cons, runSteps, Spec.iterate, hstep t s (by omega) hs, i1,
        List.length_cons, i2, List.mem_cons, true_and]
      refine ⟨?_, i4⟩
      rintro o (rfl | ho)
      · exact hhid _ hs'
      · exact i3 o ho
  obtain ⟨k1, k2, k3, k4⟩ := key d.seq 0 s0 (by omega) h0
  rw [List.range_eq_range', k1]
  exact hk k4 (stackY_eq _ d k2 (Nat.pos_of_ne_zero hsq) (fun o ho => (k3 o ho).1) (fun o ho => (k3 o ho).2))

/-! ### the specifications as one scheme -/

/-- the scheme of the three ONNX recurrences: refuse bad shapes and the empty sequence, iterate the step from
the initial state, stack the hidden parts, read the final outputs off the final state -/
def recSpec {σ β : Type} (bad : Prop) [Decidable bad] (d : RecDims) (s0 : σ) (step : Nat → σ → σ)
    (hid : σ → Tensor α) (fin : σ → β) : Option (Tensor α × β) :=
  if bad then none
  else
    let r := Spec.iterate step hid d.seq 0 s0
    some (stackSpec r.1 d, fin r.2)

theorem recSpec_some {σ β : Type} {bad : Prop} [Decidable bad] {d : RecDims} {s0 : σ} {step : Nat → σ → σ}
    {hid : σ → Tensor α} {fin : σ → β} {s : Tensor α × β} (h : recSpec bad d s0 step hid fin = some s) :
    ¬ bad ∧ s = (stackSpec (Spec.iterate step hid d.seq 0 s0).1 d, fin (Spec.iterate step hid d.seq 0 s0).2) := by
  unfold recSpec at h
  split at h
  · cases h
  next hc => exact ⟨hc, (Option.some.inj h).symm⟩

/-- `Y_h` / `Y_c` of a final state -/
def finS (d : RecDims) (H : Tensor α) : Tensor α := ofFn [1, d.batch, d.hidden] fun idx => H.get (idx.drop 1)

/-- the test of an optional input in the specifications: `cOk` / `pOk` of `Spec.lstm`, the `B` and `H0` parts of
`recShapesOk` -/
def optShapeOk (o : Option (Tensor α)) (s : List Nat) : Bool :=
  match o with
  | some c => c.shape == s
  | none => true

omit [Inhabited α] in
theorem optShapeOk_iff (o : Option (Tensor α)) (s : List Nat) :
    optShapeOk o s = true ↔ ∀ c, o = some c → c.shape = s := by
  cases o <;> simp [optShapeOk]

omit [Inhabited α] in
theorem recShapesOk_iff (G : Nat) (d : RecDims) (X W R : Tensor α) (B H0 : Option (Tensor α)) :
    recShapesOk G d X W R B H0 = true ↔
      X.shape = [d.seq, d.batch, d.input] ∧ W.shape = [1, G * d.hidden, d.input] ∧
      R.shape = [1, G * d.hidden, d.hidden] ∧ (∀ b, B = some b → b.shape = [1, 2 * G * d.hidden]) ∧
      (∀ h, H0 = some h → h.shape = [1, d.batch, d.hidden]) := by
  rw [← optShapeOk_iff, ← optShapeOk_iff]
  show (_ && _ && _ && optShapeOk B _ && optShapeOk H0 _) = true ↔ _
  simp only [Bool.and_eq_true, beq_iff_eq, and_assoc]

theorem dotRow_congr (A : Arith α) (x x' : Nat → α) (M : Tensor α) (row n : Nat)
    (h : ∀ l, l < n → x' l = x l) : dotRow A x' M row n = dotRow A x M row n :=
  sumRange_congr A n _ _ fun l hl => by rw [h l hl]

theorem gatePre_congr (A : Arith α) (G hidden input : Nat) (W R : Tensor α) (B : Option (Tensor α))
    (x x' hp hp' : Nat → α) (g j : Nat)
    (hx : ∀ l, l < input → x' l = x l) (hh : ∀ l, l < hidden → hp' l = hp l) :
    gatePre A G hidden input W R B x' hp' g j = gatePre A G hidden input W R B x hp g j := by
  unfold gatePre
  rw [dotRow_congr A x x' _ _ _ hx, dotRow_congr A hp hp' _ _ _ hh]

/-! ### the affine part of a gate -/

/-- `Xt·W_gᵀ + Wb_g + Hh·R_gᵀ + Rb_g` as all three operators compute it (two `Gemm`s and an `Add`) is the
specification's `gatePre` on the rows `hp` of `Hh`; `k` is whatever the operator does next with it -/
theorem gate_bind {β : Type} (A : Arith α) (one : α) (hone : ∀ v, A.mul v one = v) (d : RecDims)
    (X W R : Tensor α) (B : Option (Tensor α)) (G N g : Nat) (hN : (G + g + 1) * d.hidden ≤ N) (t : Nat)
    (Hh : Tensor α) (hH : Hh.shape = [d.batch, d.hidden]) (hp : Nat → Nat → α)
    (hhp : ∀ i k, i < d.batch → k < d.hidden → Hh.get [i, k] = hp i k) (k : Tensor α → Res β) :
    (do let a ← gemmT A one (xSlice X d t) (blk W d.hidden [d.input] g) (blk (biasT A.zero B N) d.hidden [] g)
        let b ← gemmT A one Hh (blk R d.hidden [d.hidden] g) (blk (biasT A.zero B N) d.hidden [] (G + g))
        let s ← zipT A.add a b
        k s) =
      k (ofFn [d.batch, d.hidden] fun idx =>
        gatePre A G d.hidden d.input W R B (fun l => X.get [t, idx.getD 0 0, l]) (hp (idx.getD 0 0)) g
          (idx.getD 1 0)) := by
  have hg : (g + 1) * d.hidden ≤ N := Nat.le_trans (Nat.mul_le_mul_right _ (by omega)) hN
  rw [gemmT_blk A one hone (xSlice X d t) W B N d.batch d.input d.hidden g g rfl hg (fun i l => X.get [t, i, l])
      (fun i l hi hl => xSlice_get X d t i l hi hl),
    gemmT_blk A one hone Hh R B N d.batch d.hidden d.hidden g (G + g) hH hN hp hhp]
  simp only [ok_bind, zipT_ofFn]
  rfl

/-! ### the operators' `do` blocks, line by line

The three end-to-end proofs go through the `do` block of their operator from the top: every goal is
`(line; rest) = r`, and `refine` with one of the rules below, given what the line returns, leaves `rest = r` at that
value. `refine` finds the line by unification, which sees through the `have`s and join points of the compiled
`do` notation and through the guards that evaluate; nothing is normalised on the way, which is why this is cheap. -/

omit [Inhabited α] in
/-- `let f ← match acts[i]? with | none => throw .panic | some n => match getAct n with …; rest` -/
theorem act_bind {γ : Type} (getAct : String → Option (α → α)) (acts : List String) (i : Nat) {n : String}
    {f : α → α} (hn : acts[i]? = some n) (hf : getAct n = some f) {k : (α → α) → Res γ} {r : Res γ} (hk : k f = r) :
    (match acts[i]? with
      | none => throw Err.panic >>= k
      | some n => match getAct n with
        | none => throw Err.activation >>= k
        | some f => pure f >>= k) = r := by
  simp only [hn, hf]
  exact hk

/-! ### RNN -/

/-- a step that sends every row of the batch through a `cell`: unit `j` of the new row from the row of `X_t` and
the row of `H`. The steps of `Spec.rnn` and `Spec.gru` have this form. -/
def rowStep (d : RecDims) (X : Tensor α) (cell : (Nat → α) → (Nat → α) → Nat → α) (t : Nat) (H : Tensor α) :
    Tensor α :=
  ofFn [d.batch, d.hidden] fun idx =>
    cell (fun i => X.get [t, idx.getD 0 0, i]) (fun k => H.get [idx.getD 0 0, k]) (idx.getD 1 0)

/-- the `step` of `Spec.rnn` -/
def rnnStepS (A : Arith α) (f : α → α) (d : RecDims) (X W R : Tensor α) (B : Option (Tensor α)) :
    Nat → Tensor α → Tensor α :=
  rowStep d X fun x hp j => f (gatePre A 1 d.hidden d.input W R B x hp 0 j)

theorem rnn_recSpec (A : Arith α) (f : α → α) (d : RecDims) (X W R : Tensor α) (B H0 : Option (Tensor α)) :
    Spec.rnn A f d X W R B H0 =
      recSpec (!recShapesOk 1 d X W R B H0 ∨ d.seq = 0) d (initS A.zero H0 d.batch d.hidden)
        (rnnStepS A f d X W R B) id (finS d) := rfl

/-- **RNN = ONNX recurrence**: the model returns the specification's tensors themselves. `hidden ≥ 2` is forced
by `ExtractMatrices` (a block of extent 1 loses its axis); `batch · input ≥ 2` by the time slice (a slice with
one element becomes a scalar). -/
theorem rnnOp_spec (A : Arith α) (one : α) (hone : ∀ v, A.mul v one = v)
    (getAct : String → Option (α → α)) (name : String) (f : α → α) (hact : getAct name = some f)
    (d : Spec.RecDims) (X W R : Tensor α) (B H0 : Option (Tensor α))
    (hh : 2 ≤ d.hidden) (hbi : 2 ≤ d.batch * d.input) (hWH : ∀ h, H0 = some h → h.WF)
    (s : Tensor α × Tensor α) (hs : Spec.rnn A f d X W R B H0 = some s) :
    rnnOp A one getAct { hiddenSize := d.hidden, activations := [name] } X W R B none H0 = .ok s := by
  obtain ⟨hc, rfl⟩ := recSpec_some (rnn_recSpec A f d X W R B H0 ▸ hs)
  simp only [not_or, Bool.not_eq_true', Bool.not_eq_false] at hc
  obtain ⟨hX, hW, hR, hB, hH⟩ := (recShapesOk_iff 1 d X W R B H0).1 hc.1
  have hi := (pos_of_two_le_mul hbi).2
  unfold rnnOp
  rw [hX]
  refine bind_of_ok
    (congrArg (Except.map _) (extractMatrices_eq W 1 d.hidden [d.input] hW hh (Pos_cons hi Pos_nil))) ?_
  refine bind_of_ok
    (congrArg (Except.map _) (extractMatrices_eq R 1 d.hidden [d.hidden] hR hh (Pos_cons (by omega) Pos_nil))) ?_
  refine bind_of_ok (extractMatrices_eq _ 2 d.hidden [] (biasT_shape _ _ _ hB) hh Pos_nil) ?_
  refine bind_of_ok (dropDir_initS A.zero H0 d.batch d.hidden hH hWH) ?_
  refine act_bind getAct [name] 0 rfl hact ?_
  refine bind_of_ok (timeSlices_x X d hX hbi) ?_
  rw [isEmpty_map_range _ hc.2]
  refine runSteps_iterate d (xSlice X d) (rnnStepS A f d X W R B) id (StateOk d) hc.2 (initS_ok A.zero H0 d)
    (fun _ _ _ => ⟨rfl, ofFn_WF _ _⟩) (fun _ h => h) ?_ fun hfin hY => ?_
  · -- the step of `rnnOp` on a state `H` returns `rnnStepS … t H`
    intro t H _ hH
    simp only [List.headD_eq_getD, getD_map_range, Nat.reduceLT]
    rw [gate_bind A one hone d X W R B 1 (2 * d.hidden) 0 (by omega) t H hH.1 (fun i k => H.get [i, k])
      (fun _ _ _ _ => rfl)]
    simp only [map_ofFn]
    rfl
  · exact bind_of_ok hY (bind_of_ok (finalState_eq _ d.batch d.hidden hfin.1 hfin.2) rfl)

-- the proof does not use `hsq`: `hs` implies it (the specification is undefined for an empty sequence)
set_option linter.unusedVariables false in
theorem rnn_partial (A : Arith α) (one : α) (hone : ∀ v, A.mul v one = v)
    (getAct : String → Option (α → α)) (name : String) (f : α → α) (hact : getAct name = some f)
    (d : Spec.RecDims) (X W R : Tensor α) (B H0 : Option (Tensor α))
    (hh : 2 ≤ d.hidden) (hi : 2 ≤ d.input) (hb : 1 ≤ d.batch) (hsq : 1 ≤ d.seq)
    (hWH : ∀ h, H0 = some h → h.WF)
    (s : Tensor α × Tensor α) (hs : Spec.rnn A f d X W R B H0 = some s) :
    ∃ y yh, rnnOp A one getAct { hiddenSize := d.hidden, activations := [name] } X W R B none H0 = .ok (y, yh) ∧
      Proofs.Equiv y s.1 ∧ Proofs.Equiv yh s.2 := by
  refine ⟨s.1, s.2, rnnOp_spec A one hone getAct name f hact d X W R B H0 hh (two_le_mul _ _ hb hi) hWH s hs, ?_⟩
  obtain ⟨_, rfl⟩ := recSpec_some (rnn_recSpec A f d X W R B H0 ▸ hs)
  exact ⟨Equiv.refl (ofFn_WF _ _), Equiv.refl (ofFn_WF _ _)⟩

/-! ### GRU -/

/-- unit `j` of the new hidden row of `Spec.gru`, from the row `x` of `X_t` and the row `hp` of `H` -/
def gruCell (A : Arith α) (one : α) (f g : α → α) (lbr : Bool) (hidden input : Nat) (W R : Tensor α)
    (B : Option (Tensor α)) (x hp : Nat → α) (j : Nat) : α :=
  let z := f (gatePre A 3 hidden input W R B x hp 0 j)
  let r (k : Nat) := f (gatePre A 3 hidden input W R B x hp 1 k)
  let wb := match B with | some bb => bb.get [0, 2 * hidden + j] | none => A.zero
  let rb := match B with | some bb => bb.get [0, 5 * hidden + j] | none => A.zero
  let ht :=
    if !lbr then
      g (A.add (A.add (dotRow A x W (2 * hidden + j) input) wb)
               (A.add (dotRow A (fun k => A.mul (r k) (hp k)) R (2 * hidden + j) hidden) rb))
    else
      g (A.add (A.mul (A.add (dotRow A hp R (2 * hidden + j) hidden) rb) (r j))
               (A.add (dotRow A x W (2 * hidden + j) input) wb))
  A.add (A.mul (A.sub one z) ht) (A.mul z (hp j))

/-- the cell reads `input` entries of `x` and `hidden` entries of `hp` -/
theorem gruCell_congr (A : Arith α) (one : α) (f g : α → α) (lbr : Bool) (hidden input : Nat) (W R : Tensor α)
    (B : Option (Tensor α)) (x x' hp hp' : Nat → α) (j : Nat) (hj : j < hidden)
    (hx : ∀ l, l < input → x' l = x l) (hh : ∀ l, l < hidden → hp' l = hp l) :
    gruCell A one f g lbr hidden input W R B x' hp' j = gruCell A one f g lbr hidden input W R B x hp j := by
  have drh : ∀ (q : Nat → α) row, dotRow A (fun k => A.mul (q k) (hp' k)) R row hidden =
      dotRow A (fun k => A.mul (q k) (hp k)) R row hidden :=
    fun q row => dotRow_congr A _ _ R row hidden fun l hl => by rw [hh l hl]
  unfold gruCell
  simp only [gatePre_congr A 3 hidden input W R B x x' hp hp' _ _ hx hh, dotRow_congr A x x' W _ input hx,
    dotRow_congr A hp hp' R _ hidden hh, drh, hh j hj]

/-- the `step` of `Spec.gru` -/
def gruStepS (A : Arith α) (one : α) (f g : α → α) (lbr : Bool) (d : RecDims) (X W R : Tensor α)
    (B : Option (Tensor α)) : Nat → Tensor α → Tensor α :=
  rowStep d X (gruCell A one f g lbr d.hidden d.input W R B)

theorem gru_recSpec (A : Arith α) (one : α) (f g : α → α) (lbr : Bool) (d : RecDims) (X W R : Tensor α)
    (B H0 : Option (Tensor α)) :
    Spec.gru A one f g lbr d X W R B H0 =
      recSpec (!recShapesOk 3 d X W R B H0 ∨ d.seq = 0) d (initS A.zero H0 d.batch d.hidden)
        (gruStepS A one f g lbr d X W R B) id (finS d) := rfl

/-- **GRU = ONNX recurrence**, both values of `linear_before_reset` (guards as for `rnnOp_spec`) -/
theorem gruOp_spec (A : Arith α) (one : α) (hone : ∀ v, A.mul v one = v)
    (getAct : String → Option (α → α)) (n1 n2 : String) (f g : α → α) (h1 : getAct n1 = some f) (h2 : getAct n2 = some g)
    (lbr : Bool) (d : Spec.RecDims) (X W R : Tensor α) (B H0 : Option (Tensor α))
    (hh : 2 ≤ d.hidden) (hbi : 2 ≤ d.batch * d.input) (hWH : ∀ h, H0 = some h → h.WF)
    (s : Tensor α × Tensor α) (hs : Spec.gru A one f g lbr d X W R B H0 = some s) :
    gruOp A one getAct { hiddenSize := d.hidden, activations := [n1, n2], linearBeforeReset := lbr } X W R B none H0 = .ok s := by
  obtain ⟨hc, rfl⟩ := recSpec_some (gru_recSpec A one f g lbr d X W R B H0 ▸ hs)
  simp only [not_or, Bool.not_eq_true', Bool.not_eq_false] at hc
  obtain ⟨hX, hW, hR, hB, hH⟩ := (recShapesOk_iff 3 d X W R B H0).1 hc.1
  have hi := (pos_of_two_le_mul hbi).2
  unfold gruOp
  rw [hX]
  refine bind_of_ok (extractMatrices_eq W 3 d.hidden [d.input] hW hh (Pos_cons hi Pos_nil)) ?_
  refine bind_of_ok (extractMatrices_eq R 3 d.hidden [d.hidden] hR hh (Pos_cons (by omega) Pos_nil)) ?_
  refine bind_of_ok (extractMatrices_eq _ 6 d.hidden [] (biasT_shape _ _ _ hB) hh Pos_nil) ?_
  refine bind_of_ok (dropDir_initS A.zero H0 d.batch d.hidden hH hWH) ?_
  refine act_bind getAct [n1, n2] 0 rfl h1 ?_
  refine act_bind getAct [n1, n2] 1 rfl h2 ?_
  refine bind_of_ok (timeSlices_x X d hX hbi) ?_
  rw [isEmpty_map_range _ hc.2]
  refine runSteps_iterate d (xSlice X d) (gruStepS A one f g lbr d X W R B) id (StateOk d) hc.2
    (initS_ok A.zero H0 d) (fun _ _ _ => ⟨rfl, ofFn_WF _ _⟩) (fun _ h => h) ?_ fun hfin hY => ?_
  · -- the step of `gruOp` on a state `H` returns `gruStepS … t H`: gates `z`, `r`, then `h̃` in either form
    intro t H _ hH
    simp only [getD_map_range, Nat.reduceLT]
    rw [gate_bind A one hone d X W R B 3 (6 * d.hidden) 0 (by omega) t H hH.1 (fun i k => H.get [i, k])
        (fun _ _ _ _ => rfl),
      gate_bind A one hone d X W R B 3 (6 * d.hidden) 1 (by omega) t H hH.1 (fun i k => H.get [i, k])
        (fun _ _ _ _ => rfl)]
    cases lbr with
    | false =>
      simp only [pure_bind, map_ofFn, Bool.not_false, if_true, zipT_ofFn_get _ _ _ _ H hH.1 hH.2, ok_bind]
      -- the model has materialised `r ⊙ H`; the specification reads its entries inside the dot product
      rw [gate_bind A one hone d X W R B 3 (6 * d.hidden) 2 (by omega) t _ rfl _
        (fun i k hi hk => ofFn_get2 _ _ _ i k hi hk)]
      simp only [pure_bind, map_ofFn, zipT_ofFn, ok_bind]
      rfl
    | true =>
      simp only [pure_bind, map_ofFn, Bool.not_true, Bool.false_eq_true, if_false]
      rw [gemmT_blk A one hone (xSlice X d t) W B _ d.batch d.input d.hidden 2 2 rfl (by omega)
          (fun i l => X.get [t, i, l]) (fun i l hi hl => xSlice_get X d t i l hi hl),
        gemmT_blk A one hone H R B _ d.batch d.hidden d.hidden 2 5 hH.1 (by omega) (fun i k => H.get [i, k])
          (fun _ _ _ _ => rfl)]
      simp only [map_ofFn, zipT_ofFn, zipT_ofFn_get _ _ _ _ H hH.1 hH.2, ok_bind]
      rfl
  · exact bind_of_ok hY (bind_of_ok (finalState_eq _ d.batch d.hidden hfin.1 hfin.2) rfl)

-- the proof does not use `hsq`: `hs` implies it (the specification is undefined for an empty sequence)
set_option linter.unusedVariables false in
theorem gru_partial (A : Arith α) (one : α) (hone : ∀ v, A.mul v one = v)
    (getAct : String → Option (α → α)) (n1 n2 : String) (f g : α → α) (h1 : getAct n1 = some f) (h2 : getAct n2 = some g)
    (lbr : Bool) (d : Spec.RecDims) (X W R : Tensor α) (B H0 : Option (Tensor α))
    (hh : 2 ≤ d.hidden) (hi : 2 ≤ d.input) (hb : 1 ≤ d.batch) (hsq : 1 ≤ d.seq)
    (hWH : ∀ h, H0 = some h → h.WF)
    (s : Tensor α × Tensor α) (hs : Spec.gru A one f g lbr d X W R B H0 = some s) :
    ∃ y yh, gruOp A one getAct { hiddenSize := d.hidden, activations := [n1, n2], linearBeforeReset := lbr } X W R B none H0 = .ok (y, yh) ∧
      Proofs.Equiv y s.1 ∧ Proofs.Equiv yh s.2 := by
  refine ⟨s.1, s.2, gruOp_spec A one hone getAct n1 n2 f g h1 h2 lbr d X W R B H0 hh (two_le_mul _ _ hb hi) hWH s hs, ?_⟩
  obtain ⟨_, rfl⟩ := recSpec_some (gru_recSpec A one f g lbr d X W R B H0 ▸ hs)
  exact ⟨Equiv.refl (ofFn_WF _ _), Equiv.refl (ofFn_WF _ _)⟩

/-! ### LSTM -/

/-- the `peep` of `Spec.lstm` -/
def peepS (A : Arith α) (P : Option (Tensor α)) (hidden : Nat) (k j : Nat) (c : α) (v : α) : α :=
  match P with
  | some p => A.add v (A.mul (p.get [0, k * hidden + j]) c)
  | none => v

/-- unit `j` of the new cell row of `Spec.lstm`, from the rows `x` of `X_t` and `hp` of `H` and the old cell
value `c` at `j` -/
def lstmC (A : Arith α) (f g : α → α) (hidden input : Nat) (W R : Tensor α) (B P : Option (Tensor α))
    (x hp : Nat → α) (c : α) (j : Nat) : α :=
  let pre (gi : Nat) := gatePre A 4 hidden input W R B x hp gi j
  A.add (A.mul (f (peepS A P hidden 2 j c (pre 2))) c) (A.mul (f (peepS A P hidden 0 j c (pre 0))) (g (pre 3)))

/-- unit `j` of the new hidden row of `Spec.lstm`, from the rows and the NEW cell value `c'` at `j` -/
def lstmH (A : Arith α) (f h : α → α) (hidden input : Nat) (W R : Tensor α) (B P : Option (Tensor α))
    (x hp : Nat → α) (c' : α) (j : Nat) : α :=
  A.mul (f (peepS A P hidden 1 j c' (gatePre A 4 hidden input W R B x hp 1 j))) (h c')

theorem lstmC_congr (A : Arith α) (f g : α → α) (hidden input : Nat) (W R : Tensor α) (B P : Option (Tensor α))
    (x x' hp hp' : Nat → α) (c c' : α) (j : Nat)
    (hx : ∀ l, l < input → x' l = x l) (hh : ∀ l, l < hidden → hp' l = hp l) (hc : c' = c) :
    lstmC A f g hidden input W R B P x' hp' c' j = lstmC A f g hidden input W R B P x hp c j := by
  unfold lstmC
  simp only [gatePre_congr A 4 hidden input W R B x x' hp hp' _ _ hx hh, hc]

theorem lstmH_congr (A : Arith α) (f h : α → α) (hidden input : Nat) (W R : Tensor α) (B P : Option (Tensor α))
    (x x' hp hp' : Nat → α) (c c' : α) (j : Nat)
    (hx : ∀ l, l < input → x' l = x l) (hh : ∀ l, l < hidden → hp' l = hp l) (hc : c' = c) :
    lstmH A f h hidden input W R B P x' hp' c' j = lstmH A f h hidden input W R B P x hp c j := by
  unfold lstmH
  rw [gatePre_congr A 4 hidden input W R B x x' hp hp' _ _ hx hh, hc]

/-- the `step` of `Spec.lstm`: the new hidden state reads the new cell state, itself a tensor -/
def lstmStepS (A : Arith α) (f g h : α → α) (d : RecDims) (X W R : Tensor α) (B P : Option (Tensor α))
    (t : Nat) (st : Tensor α × Tensor α) : Tensor α × Tensor α :=
  let C' : Tensor α := ofFn [d.batch, d.hidden] fun idx =>
    lstmC A f g d.hidden d.input W R B P (fun i => X.get [t, idx.getD 0 0, i])
      (fun k => st.1.get [idx.getD 0 0, k]) (st.2.get [idx.getD 0 0, idx.getD 1 0]) (idx.getD 1 0)
  let H' : Tensor α := ofFn [d.batch, d.hidden] fun idx =>
    lstmH A f h d.hidden d.input W R B P (fun i => X.get [t, idx.getD 0 0, i])
      (fun k => st.1.get [idx.getD 0 0, k]) (C'.get [idx.getD 0 0, idx.getD 1 0]) (idx.getD 1 0)
  (H', C')

theorem lstm_recSpec (A : Arith α) (f g h : α → α) (d : RecDims)
    (X W R : Tensor α) (B H0 C0 P : Option (Tensor α)) :
    Spec.lstm A f g h d X W R B H0 C0 P =
      recSpec (!recShapesOk 4 d X W R B H0 ∨ d.seq = 0 ∨ !optShapeOk C0 [1, d.batch, d.hidden] ∨
          !optShapeOk P [1, 3 * d.hidden]) d
        (initS A.zero H0 d.batch d.hidden, initS A.zero C0 d.batch d.hidden)
        (lstmStepS A f g h d X W R B P) (·.1) (fun st => (finS d st.1, finS d st.2)) := rfl

def StateOk2 (d : RecDims) (st : Tensor α × Tensor α) : Prop := StateOk d st.1 ∧ StateOk d st.2

omit [Inhabited α] in
/-- `let ps ← match P with | none => pure none | some p => (e p).map some; rest`: where `e` succeeds, `rest` at one
value, for both cases of the optional input -/
theorem optM_bind {β γ : Type} (P : Option (Tensor α)) {e : Tensor α → Res β} {v : Tensor α → β}
    (he : ∀ p, P = some p → e p = .ok (v p)) {k : Option β → Res γ} {r : Res γ} (hk : k (P.map v) = r) :
    (match (generalizing := false) P with
      | none => pure none >>= k
      | some p => (e p).map some >>= k) = r := by
  cases P with
  | none => exact hk
  | some p => simp only [he p rfl]; exact hk

/-- **LSTM = ONNX recurrence**, every subset of bias / initial hidden state / initial cell state / peepholes
(guards as for `rnnOp_spec`) -/
theorem lstmOp_spec (A : Arith α) (one : α) (hone : ∀ v, A.mul v one = v)
    (getAct : String → Option (α → α)) (n1 n2 n3 : String) (f g h : α → α)
    (h1 : getAct n1 = some f) (h2 : getAct n2 = some g) (h3 : getAct n3 = some h)
    (d : Spec.RecDims) (X W R : Tensor α) (B H0 C0 P : Option (Tensor α))
    (hh : 2 ≤ d.hidden) (hbi : 2 ≤ d.batch * d.input)
    (hWH : ∀ t, H0 = some t → t.WF) (hWC : ∀ t, C0 = some t → t.WF)
    (s : Tensor α × Tensor α × Tensor α) (hs : Spec.lstm A f g h d X W R B H0 C0 P = some s) :
    lstmOp A one getAct { hiddenSize := d.hidden, activations := [n1, n2, n3] } X W R B none H0 C0 P = .ok s := by
  obtain ⟨hc, rfl⟩ := recSpec_some (lstm_recSpec A f g h d X W R B H0 C0 P ▸ hs)
  simp only [not_or, Bool.not_eq_true', Bool.not_eq_false] at hc
  obtain ⟨hc1, hc2, hc3, hc4⟩ := hc
  obtain ⟨hX, hW, hR, hB, hH⟩ := (recShapesOk_iff 4 d X W R B H0).1 hc1
  have hC := (optShapeOk_iff C0 _).1 hc3
  have hP := (optShapeOk_iff P _).1 hc4
  have hi := (pos_of_two_le_mul hbi).2
  unfold lstmOp
  rw [hX]
  refine bind_of_ok (extractMatrices_eq W 4 d.hidden [d.input] hW hh (Pos_cons hi Pos_nil)) ?_
  refine bind_of_ok (extractMatrices_eq R 4 d.hidden [d.hidden] hR hh (Pos_cons (by omega) Pos_nil)) ?_
  refine bind_of_ok (extractMatrices_eq _ 8 d.hidden [] (biasT_shape _ _ _ hB) hh Pos_nil) ?_
  refine optM_bind P (fun p hp => extractMatrices_eq p 3 d.hidden [] (hP p hp) hh Pos_nil) ?_
  refine bind_of_ok (dropDir_initS A.zero H0 d.batch d.hidden hH hWH) ?_
  refine bind_of_ok (dropDir_initS A.zero C0 d.batch d.hidden hC hWC) ?_
  refine act_bind getAct [n1, n2, n3] 0 rfl h1 ?_
  refine act_bind getAct [n1, n2, n3] 1 rfl h2 ?_
  refine act_bind getAct [n1, n2, n3] 2 rfl h3 ?_
  refine bind_of_ok (timeSlices_x X d hX hbi) ?_
  rw [isEmpty_map_range _ hc2]
  refine runSteps_iterate d (xSlice X d) (lstmStepS A f g h d X W R B P) (·.1) (StateOk2 d) hc2
    ⟨initS_ok A.zero H0 d, initS_ok A.zero C0 d⟩ (fun _ _ _ => ⟨⟨rfl, ofFn_WF _ _⟩, ⟨rfl, ofFn_WF _ _⟩⟩) (fun _ h => h.1)
    ?_ fun hfin hY => ?_
  · -- the step of `lstmOp` on a state `(H, C)` returns `lstmStepS … t (H, C)`
    rintro t ⟨H, C⟩ _ ⟨hH, hC⟩
    have gate := fun g (hg : g < 4) => gate_bind (β := Tensor α) A one hone d X W R B 4 (8 * d.hidden) g
      (Nat.mul_le_mul_right _ (by omega)) t H hH.1 (fun i k => H.get [i, k]) (fun _ _ _ _ => rfl)
    -- each gate is `gate` and then, if there are peepholes, its block of `P` broadcast against the cell state:
    -- the old one for `i` and `f`, the new one (an `ofFn`) for `o`
    cases P <;>
      simp only [getD_map_range, Nat.reduceLT, Option.map_none, Option.map_some, gate,
        unidir_blk2 d.batch d.hidden _ hC.1, unidir_blk2 d.batch d.hidden (ofFn _ _) rfl,
        pure_bind, ok_bind, map_ofFn, zipT_ofFn, zipT_ofFn_get _ _ _ _ C hC.1 hC.2]
    -- the specification reads the new cell state as a tensor, `C'.get [b, j]`; the model has its entry `idx`
    all_goals
      refine congrArg (fun H' => Except.ok ((H', _), H')) (ofFn_congr fun idx hidx => ?_)
      obtain ⟨_, i0, i1⟩ := InRange2_inv idx _ _ hidx
      simp only [ofFn_get2 _ _ _ _ _ i0 i1]
      rfl
  · exact bind_of_ok hY (bind_of_ok (finalState_eq _ d.batch d.hidden hfin.1.1 hfin.1.2)
      (bind_of_ok (finalState_eq _ d.batch d.hidden hfin.2.1 hfin.2.2) rfl))

-- the proof does not use `hsq`: `hs` implies it (the specification is undefined for an empty sequence)
set_option linter.unusedVariables false in
theorem lstm_partial (A : Arith α) (one : α) (hone : ∀ v, A.mul v one = v)
    (getAct : String → Option (α → α)) (n1 n2 n3 : String) (f g h : α → α)
    (h1 : getAct n1 = some f) (h2 : getAct n2 = some g) (h3 : getAct n3 = some h)
    (d : Spec.RecDims) (X W R : Tensor α) (B H0 C0 P : Option (Tensor α))
    (hh : 2 ≤ d.hidden) (hi : 2 ≤ d.input) (hb : 1 ≤ d.batch) (hsq : 1 ≤ d.seq)
    (hWH : ∀ t, H0 = some t → t.WF) (hWC : ∀ t, C0 = some t → t.WF)
    (s : Tensor α × Tensor α × Tensor α) (hs : Spec.lstm A f g h d X W R B H0 C0 P = some s) :
    ∃ y yh yc, lstmOp A one getAct { hiddenSize := d.hidden, activations := [n1, n2, n3] } X W R B none H0 C0 P = .ok (y, yh, yc) ∧
      Proofs.Equiv y s.1 ∧ Proofs.Equiv yh s.2.1 ∧ Proofs.Equiv yc s.2.2 := by
  refine ⟨s.1, s.2.1, s.2.2, lstmOp_spec A one hone getAct n1 n2 n3 f g h h1 h2 h3 d X W R B H0 C0 P hh
    (two_le_mul _ _ hb hi) hWH hWC s hs, ?_⟩
  obtain ⟨_, rfl⟩ := recSpec_some (lstm_recSpec A f g h d X W R B H0 C0 P ▸ hs)
  exact ⟨Equiv.refl (ofFn_WF _ _), Equiv.refl (ofFn_WF _ _), Equiv.refl (ofFn_WF _ _)⟩

/-! ### further lemmas, not used by the proofs above -/

theorem axisSel_none (i size : Nat) : axisSel i size none = .ok (⟨0, size, 1, false⟩, 0, size) :=
  GSlice.axisSel_eq (o := none) trivial

theorem headD_tail_getD (idx : List Nat) : idx.tail.headD 0 = idx.getD 1 0 := by
  rw [List.headD_eq_getD, getD_tail]

theorem tensor_ext (s t : Tensor α) (hs : s.shape = t.shape) (hsW : s.WF) (htW : t.WF)
    (h : ∀ idx, InRange idx s.shape → s.get idx = t.get idx) : s = t :=
  Proofs.tensor_ext hs hsW htW h

end Gonnx.Proofs.Recurrent
