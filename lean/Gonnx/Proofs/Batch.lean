import Gonnx.Graph.Batch
import Gonnx.Proofs.Broadcast
import Gonnx.Proofs.MapM
/-
C16, the notions. A sample of a tensor given by its cells is given by its cells: for `n < dim s ax`,
`takeBatch ax n (ofFn s F) = ofFn (s.set ax 1) (F ∘ set ax n)`. Every operator result is an `ofFn`, so
"the operator on a sample gives the sample of the result" is an equation between cell functions
(`ofFn_eq_takeBatch`). `PerSampleOn` is `BatchPointwise` with the condition on the input shape left open;
it is closed under composition. `SampleOf`: what an operand of a broadcast contributes to a sample, whether it
carries the batch or not. The operators: Proofs/Batch2.lean, Batch2Conv.lean, Batch2Rec.lean.
-/
namespace Gonnx.Proofs.Batch
open Gonnx Gonnx.Proofs
variable {α β γ : Type}

/-! ### lists: writing one entry of a shape or an index -/

theorem Pos_set_one {s : List Nat} (hs : Pos s) (ax : Nat) : Pos (s.set ax 1) := by
  intro d hd
  rcases List.mem_or_eq_of_mem_set hd with h | h
  · exact hs d h
  · omega

theorem zipWith_set {β γ δ : Type} (g : β → γ → δ) (a : List β) (b : List γ) (k : Nat) (x : β) (y : γ) :
    List.zipWith g (a.set k x) (b.set k y) = (List.zipWith g a b).set k (g x y) := by
  induction a generalizing b k with
  | nil => rfl
  | cons a0 a ih => cases b <;> cases k <;> simp [ih]

theorem all_set_true (l : List Bool) (k : Nat) (h : l.all id = true) : (l.set k true).all id = true :=
  List.all_eq_true.2 fun b hb => (List.mem_or_eq_of_mem_set hb).elim (List.all_eq_true.1 h b) fun e => e ▸ rfl

/-! ### `takeBatch` -/

-- inside this namespace the name shadows `Proofs.tensor_ext`, which takes the components of `Equiv` one by one
theorem tensor_ext [Inhabited α] (a b : Tensor α) (h : Equiv a b) : a = b := h.eq

@[simp] theorem takeBatch_shape [Inhabited α] (ax n : Nat) (t : Tensor α) :
    (takeBatch ax n t).shape = t.shape.set ax 1 := rfl

theorem Good_ofFn (s : List Nat) (f : List Nat → α) (hs : Pos s) : Good (ofFn s f) := ⟨ofFn_WF _ _, hs⟩

theorem takeBatch_good [Inhabited α] (ax n : Nat) (t : Tensor α) (hg : Good t) :
    Good (takeBatch ax n t) ∧ (takeBatch ax n t).shape = t.shape.set ax 1 :=
  ⟨Good_ofFn _ _ (Pos_set_one hg.2 ax), rfl⟩

theorem takeBatch_get [Inhabited α] (ax n : Nat) (t : Tensor α) (idx : List Nat)
    (h : InRange idx (t.shape.set ax 1)) : (takeBatch ax n t).get idx = t.get (idx.set ax n) :=
  get_ofFn _ _ _ h

/-- A sample of a tensor given by its cells is given by its cells, `F ∘ set ax n`. In the form in which the
operators use it: the cells `F'` of the result for the sample are those of the result for the batch at the
batch coordinate. -/
theorem ofFn_eq_takeBatch [Inhabited α] {s : List Nat} {F F' : List Nat → α} {ax n : Nat} (hn : n < dim s ax)
    (h : ∀ idx, InRange idx (s.set ax 1) → F' idx = F (idx.set ax n)) :
    ofFn (s.set ax 1) F' = takeBatch ax n (ofFn s F) :=
  ofFn_congr fun idx hi => (h idx hi).trans (get_ofFn _ _ _ (InRange_set s idx ax n hi hn)).symm

/-- sample 0 of the table of a sample, whose cells `t.get (·.set ax n)` do not look at entry `ax` -/
theorem takeBatch_idem [Inhabited α] (ax n : Nat) (t : Tensor α) (hax : ax < t.shape.length) :
    takeBatch ax 0 (takeBatch ax n t) = takeBatch ax n t := by
  have h := ofFn_eq_takeBatch (s := t.shape.set ax 1) (ax := ax) (n := 0) (F := fun idx => t.get (idx.set ax n))
    (F' := fun idx => t.get (idx.set ax n)) (by rw [dim_set, if_pos ⟨rfl, hax⟩]; exact Nat.one_pos)
    fun idx _ => by rw [List.set_set]
  rw [List.set_set] at h
  exact h.symm

/-- a sample along axis 0 is a block of the buffer, whatever the shape behind that axis -/
theorem takeBatch_zero_data [Inhabited α] (d : Nat) (rest : List Nat) (data : List α) (n : Nat) :
    (takeBatch 0 n ⟨d :: rest, data⟩).data =
      (List.range (prod rest)).map fun k => data.getD (n * prod rest + k) default := by
  show (allIdx (1 :: rest)).map (fun idx => (⟨d :: rest, data⟩ : Tensor α).get (idx.set 0 n)) = _
  have h1 : allIdx (1 :: rest) = (allIdx rest).map (0 :: ·) := by simp [allIdx]
  rw [h1, List.map_map, ← map_ravel_allIdx rest, List.map_map]
  rfl

/-! ### per-sample operators -/

/-- `BatchPointwise` with the condition on the input shape left open: `BatchPointwise ax ax' f` is
`PerSampleOn (ax < ·.length) ax ax' f` by definition. An operator that is per-sample only on inputs of some
rank (a bias that must not carry the batch) has its own `dom`. -/
def PerSampleOn [Inhabited α] [Inhabited β] (dom : List Nat → Prop) (ax ax' : Nat)
    (f : Tensor α → Res (Tensor β)) : Prop :=
  ∀ X Y, Good X → dom X.shape → f X = .ok Y →
    Good Y ∧ ax' < Y.shape.length ∧ dim Y.shape ax' = dim X.shape ax ∧
    ∀ n, n < dim X.shape ax → f (takeBatch ax n X) = .ok (takeBatch ax' n Y)

theorem _root_.Gonnx.BatchPointwise.on [Inhabited α] [Inhabited β] {ax ax' : Nat} {f : Tensor α → Res (Tensor β)}
    (h : BatchPointwise ax ax' f) : PerSampleOn (ax < ·.length) ax ax' f := h

theorem PerSampleOn.mono [Inhabited α] [Inhabited β] {dom dom' : List Nat → Prop} {ax ax' : Nat}
    {f : Tensor α → Res (Tensor β)} (h : PerSampleOn dom ax ax' f) (hd : ∀ s, dom' s → dom s) :
    PerSampleOn dom' ax ax' f := fun X Y hX hdom => h X Y hX (hd _ hdom)

/-- `hdom`: the first operator maps its domain into that of the second. `hF` lets the composite be written
with any `match` (the operators of the model test for `.error` first, and the two ways of writing it are not
definitionally equal). -/
theorem PerSampleOn.comp [Inhabited α] [Inhabited β] [Inhabited γ] {dom dom' : List Nat → Prop}
    {ax ax' ax'' : Nat} {f : Tensor α → Res (Tensor β)} {g : Tensor β → Res (Tensor γ)}
    {F : Tensor α → Res (Tensor γ)}
    (hf : PerSampleOn dom ax ax' f) (hg : PerSampleOn dom' ax' ax'' g)
    (hdom : ∀ X Y, Good X → dom X.shape → f X = .ok Y → dom' Y.shape)
    (hF : ∀ X, F X = f X >>= g) : PerSampleOn dom ax ax'' F := by
  intro X Z hX hd h
  rw [hF] at h
  obtain ⟨Y, hY, hZ⟩ := bind_eq_ok.1 h
  obtain ⟨gY, _, dY, sY⟩ := hf X Y hX hd hY
  obtain ⟨gZ, aZ, dZ, sZ⟩ := hg Y Z gY (hdom X Y hX hd hY) hZ
  refine ⟨gZ, aZ, by rw [dZ, dY], fun n hn => ?_⟩
  rw [hF, sY n hn]
  exact sZ n (by rw [dY]; exact hn)

theorem compose [Inhabited α] [Inhabited β] [Inhabited γ] (ax ax' ax'' : Nat)
    (f : Tensor α → Res (Tensor β)) (g : Tensor β → Res (Tensor γ))
    (hf : BatchPointwise ax ax' f) (hg : BatchPointwise ax' ax'' g) :
    BatchPointwise ax ax'' (fun X => match f X with | .ok Y => g Y | .error e => .error e) :=
  hf.on.comp hg.on (fun X Y hX hd h => (hf X Y hX hd h).2.1) fun X => by cases f X <;> rfl

theorem independent_of_batch [Inhabited α] [Inhabited β] (ax ax' : Nat) (f : Tensor α → Res (Tensor β))
    (hf : BatchPointwise ax ax' f)
    (B1 B2 : Tensor α) (R1 R2 : Tensor β) (n m : Nat)
    (hg1 : Good B1) (hg2 : Good B2) (ha1 : ax < B1.shape.length) (ha2 : ax < B2.shape.length)
    (hn : n < dim B1.shape ax) (hm : m < dim B2.shape ax)
    (h1 : f B1 = .ok R1) (h2 : f B2 = .ok R2)
    (hsame : takeBatch ax n B1 = takeBatch ax m B2) :
    takeBatch ax' n R1 = takeBatch ax' m R2 := by
  have e1 := (hf B1 R1 hg1 ha1 h1).2.2.2 n hn
  have e2 := (hf B2 R2 hg2 ha2 h2).2.2.2 m hm
  rw [hsame, e2] at e1
  exact (Except.ok.inj e1).symm

section operands
open Gonnx.Spec
variable [Inhabited α]

/-! ### an operand that does not carry the batch -/

/-- a shape `w` that does not carry batch axis `ax` of a broadcast of rank `r`: padded to that rank, its extent
there is 1 (it has no such axis, or extent 1 on it) -/
def BatchFree (w : List Nat) (r ax : Nat) : Prop := w.length ≤ r ∧ dim (padShape r w) ax = 1

/-- for the leading axis: lower rank, or leading extent 1 -/
theorem BatchFree.lead {w : List Nat} {r : Nat} (h : w.length < r ∨ (w.length = r ∧ dim w 0 = 1)) :
    BatchFree w r 0 := by
  rw [BatchFree, Proofs.dim_padShape]
  rcases h with h | ⟨h1, h2⟩
  · exact ⟨Nat.le_of_lt h, if_pos (by omega)⟩
  · exact ⟨Nat.le_of_eq h1, by rw [if_neg (by omega), h1, Nat.sub_self]; exact h2⟩

theorem BatchFree.lt {w : List Nat} {r ax : Nat} (h : BatchFree w r ax) : ax < r := by
  apply Decidable.byContradiction
  intro hn
  have := h.2
  rw [dim_of_le _ _ (by rw [length_padShape _ _ h.1]; omega)] at this
  omega

/-- such an operand is read at the same position whatever the batch coordinate -/
theorem pin_set_free {s idx : List Nat} {ax : Nat} (n : Nat) (h : BatchFree s idx.length ax) :
    pin s (idx.set ax n) = pin s idx :=
  List.modify_eq_set (fun _ => n) ax idx ▸ pin_modify s idx ax (fun _ => n) h.1 h.2

/-- the batch operand, of the rank of the index: the source of the index with the batch coordinate put in is the
source in the sample with the batch coordinate put in (`hn`: where the batch extent is 1 the coordinate is 0) -/
theorem pin_set_batch {s idx : List Nat} {ax n : Nat} (hl : idx.length = s.length) (hn : n < dim s ax) :
    (pin (s.set ax 1) idx).set ax n = pin s (idx.set ax n) := by
  -- index and shape have one rank, so `pin` is a `zipWith`: both sides are `pin s idx` with entry `ax` overwritten
  have hL := zipWith_set (fun e i => if e = 1 then 0 else i) s idx ax 1 (dim idx ax)
  have hR := zipWith_set (fun e i => if e = 1 then 0 else i) s idx ax (dim s ax) n
  rw [set_dim_self] at hL hR
  unfold pin
  rw [List.length_set, List.length_set, hl, Nat.sub_self, List.drop_zero, List.drop_zero, hL, hR, List.set_set]
  congr 1
  show n = if dim s ax = 1 then 0 else n
  split <;> omega

/-! ### what an operand of a broadcast contributes to a sample -/

/-- `T'` is what operand `T` of a broadcast of rank `r` contributes to sample `n` (along axis `ax`) of the result:
`T` itself if it does not carry the batch, its own sample `n` if it does -/
inductive SampleOf (ax n r : Nat) : Tensor α → Tensor α → Prop
  | free {W : Tensor α} (h : BatchFree W.shape r ax) : SampleOf ax n r W W
  | batched {X : Tensor α} (hr : X.shape.length = r) (hn : n < dim X.shape ax) :
      SampleOf ax n r X (takeBatch ax n X)

theorem SampleOf.length {ax n r : Nat} {T T' : Tensor α} (h : SampleOf ax n r T T') :
    T'.shape.length = T.shape.length := by
  cases h with
  | free => rfl
  | batched => exact List.length_set

theorem SampleOf.good {ax n r : Nat} {T T' : Tensor α} (h : SampleOf ax n r T T') (hT : Good T) : Good T' := by
  cases h with
  | free => exact hT
  | batched => exact (takeBatch_good ax n T hT).1

/-- padded to the rank of the broadcast, the shape of the contribution is that of the operand with batch
extent 1 -/
theorem SampleOf.padShape {ax n r : Nat} {T T' : Tensor α} (h : SampleOf ax n r T T') :
    padShape r T'.shape = (padShape r T.shape).set ax 1 := by
  cases h with
  | free h => rw [← h.2, set_dim_self]
  | batched h1 hn =>
    subst h1
    rw [padShape_self, takeBatch_shape, ← List.length_set (as := T.shape) (i := ax) (a := 1)]
    exact padShape_self _

/-- reading the contribution at the source index of `idx` is reading the operand at the source index of
`idx` with the batch coordinate put in -/
theorem SampleOf.get_pin {ax n r : Nat} {T T' : Tensor α} (h : SampleOf ax n r T T') (idx : List Nat)
    (hl : idx.length = r) (hin : InRange (pin T'.shape idx) T'.shape) :
    T'.get (pin T'.shape idx) = T.get (pin T.shape (idx.set ax n)) := by
  cases h with
  | free h => rw [pin_set_free n (hl ▸ h)]
  | batched hr hn =>
    exact (takeBatch_get ax n T _ hin).trans (congrArg T.get (pin_set_batch (hl.trans hr.symm) hn))

end operands

end Gonnx.Proofs.Batch
