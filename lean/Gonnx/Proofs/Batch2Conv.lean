import Gonnx.Proofs.Batch2
import Gonnx.Proofs.Conv
/-
C16, second part: Conv acts per sample (batch = axis 0 of X and Y). Helper lemmas for
Theorems/C16b.lean: the specification `Spec.conv` of a sample is the slice of the specification of
the batch (`conv_spec_sample`, for every auto_pad mode); the model inherits this through
`conv_explicit_partial`.
-/
namespace Gonnx.Proofs.Batch2
open Gonnx Gonnx.Spec Gonnx.Proofs Gonnx.Proofs.Batch Gonnx.C05
variable {α : Type} [Inhabited α]

/-- the specification's read from a sample is its read from the batch at the batch coordinate: where a position
lies inside, the index is in range -/
theorem readAt_takeBatch (zero : α) (x : Tensor α) (N C : Nat) (sp : List Nat) (hx : x.shape = N :: C :: sp)
    (n c : Nat) (hc : c < C) (pos : List Int) (hl : pos.length = sp.length) :
    Conv.readAt zero (takeBatch 0 n x) sp.length sp 0 c pos = Conv.readAt zero x sp.length sp n c pos := by
  unfold Conv.readAt
  split
  · next hin =>
    refine (takeBatch_get 0 n x _ ?_).trans rfl
    rw [hx]
    refine ⟨Nat.one_pos, hc, ?_⟩
    show InRange (pos.map Int.toNat) sp
    refine InRange_dim.2 ⟨by simp [hl], fun j hj => ?_⟩
    have := List.all_eq_true.1 hin j (List.mem_range.2 hj)
    simp only [decide_eq_true_eq] at this
    have e : dim (pos.map Int.toNat) j = (pos.getD j 0).toNat := by
      simp [dim_eq, List.getD, List.getElem?_eq_getElem (hl ▸ hj)]
    omega
  · rfl

theorem specAcc_sample (A : Arith α) (dil strides pb k : List Nat) (x w : Tensor α)
    (N C : Nat) (sp : List Nat) (hx : x.shape = N :: C :: sp) (n i1 : Nat) (o : List Nat) :
    Conv.specAcc A dil strides pb sp k (takeBatch 0 n x) w sp.length C (0 :: i1 :: o) =
      Conv.specAcc A dil strides pb sp k x w sp.length C (n :: i1 :: o) := by
  unfold Conv.specAcc
  apply foldl_congr_mem
  intro acc tap htap
  have hc : tap.getD 0 0 < C := by
    have := (InRange_dim.1 (mem_allIdx.1 htap)).2 0 (Nat.succ_pos _)
    rwa [dim_cons_zero] at this
  simp only [List.drop_succ_cons, List.drop_zero, List.getD_cons_zero, List.getD_cons_succ]
  rw [readAt_takeBatch A.zero x N C sp hx n _ hc _ (by rw [List.length_map, List.length_range])]

theorem go_sample (A : Arith α) (dil strides pb k : List Nat) (x w : Tensor α) (bias : Option (Tensor α))
    (pe dk : List Nat) (N C : Nat) (sp : List Nat) (hx : x.shape = N :: C :: sp) (n : Nat) (hn : n < N) :
    Spec.conv.go A dil strides pb sp k (takeBatch 0 n x) w bias sp.length pe dk =
      takeBatch 0 n (Spec.conv.go A dil strides pb sp k x w bias sp.length pe dk) := by
  have hs : (takeBatch 0 n x).shape = 1 :: C :: sp := by rw [takeBatch_shape, hx]; rfl
  simp only [Conv.go_eq, hs, hx, dim_cons_zero, dim_cons_succ]
  refine ofFn_eq_takeBatch (s := N :: _) (ax := 0) (n := n) hn fun idx hidx => ?_
  match idx, hidx with
  | i0 :: i1 :: o, hidx =>
    obtain rfl := Nat.lt_one_iff.1 hidx.1
    simp only [List.set_cons_zero, List.getD_cons_zero, List.getD_cons_succ]
    rw [specAcc_sample A dil strides pb k x w N C sp hx n i1 o]

/-- the specification of a sample is the slice of the specification of the batch: `Spec.conv` looks at the
shape of the input only through its rank, channel extent and spatial extents, which the sample shares -/
theorem conv_spec_sample (A : Arith α) (mode : String) (dil strides pads : List Nat) (x w : Tensor α)
    (bias : Option (Tensor α)) (s : Tensor α) (hs : Spec.conv A mode dil strides pads x w bias = some s)
    (n : Nat) (hn : n < dim x.shape 0) :
    Spec.conv A mode dil strides pads (takeBatch 0 n x) w bias = some (takeBatch 0 n s) := by
  obtain ⟨hrank, h1, h2, h3, h4, rfl⟩ :=
    (Conv.spec_conv_some_iff A mode dil strides pads x w bias s _ _ _ rfl rfl rfl).1 hs
  rw [Conv.spec_conv_some_iff A mode dil strides pads (takeBatch 0 n x) w bias _ _ _ _ rfl rfl rfl]
  have e1 : (takeBatch 0 n x).shape.length = x.shape.length := List.length_set
  have e2 : dim (takeBatch 0 n x).shape 1 = dim x.shape 1 := by
    rw [takeBatch_shape, dim_set, if_neg fun h => Nat.one_ne_zero h.1]
  have e3 : (takeBatch 0 n x).shape.drop 2 = x.shape.drop 2 := List.drop_set_of_lt (by omega)
  simp only [e1, e2, e3]
  obtain ⟨N, C, sp, hx, _⟩ := Conv.shape_split x.shape hrank
  refine ⟨hrank, h1, h2, h3, h4, ?_⟩
  have hd : x.shape.drop 2 = sp := by rw [hx]; rfl
  have hl : x.shape.length - 2 = sp.length := by rw [hx]; simp
  rw [hd, hl]
  exact (go_sample A _ _ _ _ x w bias _ _ N C sp hx n (by rw [hx] at hn; exact hn)).symm

/-- Conv: the result for sample `n` of a batch is what the sample gets when it is convolved alone -/
theorem conv_batch_partial (A : Arith α) (hA : ZeroLaws A) (x w : Tensor α) (bias : Option (Tensor α))
    (dil strides pads : List Nat)
    (hWb : ∀ b, bias = some b → b.WF)
    (hpx : Pos x.shape) (hpw : Pos w.shape)
    (hrank : x.shape.length = 3 ∨ x.shape.length = 4)
    (hdl : dil.length = x.shape.length - 2) (hsl : strides.length = x.shape.length - 2)
    (hpl : pads.length = 2 * (x.shape.length - 2))
    (hdp : ∀ d ∈ dil, 0 < d) (hsp : ∀ s ∈ strides, 0 < s)
    (hk2 : ∀ k ∈ dkernel w dil, 2 ≤ k)
    (s : Tensor α) (hs : Spec.conv A "NOTSET" dil strides pads x w bias = some s)
    (n : Nat) (hn : n < dim x.shape 0) :
    ∃ m mn,
      convOp A { autoPad := "NOTSET", dilations := dil, strides := strides, pads := pads.map (fun (p : Nat) => (p : Int)) } x w bias = .ok m ∧
      convOp A { autoPad := "NOTSET", dilations := dil, strides := strides, pads := pads.map (fun (p : Nat) => (p : Int)) } (takeBatch 0 n x) w bias = .ok mn ∧
      Equiv mn (takeBatch 0 n m) := by
  obtain ⟨m, hm, hms⟩ := Conv.conv_explicit_partial A hA x w bias dil strides pads hWb hpx hpw hrank hdl hsl hpl
    hdp hsp hk2 s hs
  -- the guards look at the input through its rank, which the sample shares
  rw [← show (takeBatch 0 n x).shape.length = x.shape.length from List.length_set] at hrank hdl hsl hpl
  obtain ⟨mn, hmn, hmns⟩ := Conv.conv_explicit_partial A hA (takeBatch 0 n x) w bias dil strides pads hWb
    (Pos_set_one hpx 0) hpw hrank hdl hsl hpl hdp hsp hk2 _
    (conv_spec_sample A "NOTSET" dil strides pads x w bias s hs n hn)
  rw [← hms.eq] at hmns
  exact ⟨m, mn, hm, hmn, hmns⟩

end Gonnx.Proofs.Batch2
