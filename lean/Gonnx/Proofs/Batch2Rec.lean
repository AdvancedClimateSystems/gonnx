import Gonnx.Proofs.Batch2
import Gonnx.Proofs.Recurrent
/-
C16, second part: RNN / GRU / LSTM act per sample (batch = axis 1 of X and of the initial states,
axis 2 of Y, axis 1 of Y_h / Y_c). Helper lemmas for Theorems/C16b.lean: the ONNX recurrence of a
sample is the slice of the recurrence of the batch (row `n` of every state of the batch is row 0 of
the corresponding state of the sample), proved once for the scheme `recSpec` (`recSpec_sample`); the model
inherits this through C06 (`rnnOp_spec`, `gruOp_spec`, `lstmOp_spec`).
-/
namespace Gonnx.Proofs.Batch2
open Gonnx Gonnx.Spec Gonnx.Proofs Gonnx.Proofs.Batch Gonnx.Proofs.Recurrent
variable {α : Type} [Inhabited α]

/-- the dimensions of a single sample -/
def sampleDims (d : RecDims) : RecDims := ⟨d.seq, 1, d.input, d.hidden⟩

theorem sampleDims_seq (d : RecDims) : (sampleDims d).seq = d.seq := rfl
theorem sampleDims_batch (d : RecDims) : (sampleDims d).batch = 1 := rfl
theorem sampleDims_input (d : RecDims) : (sampleDims d).input = d.input := rfl
theorem sampleDims_hidden (d : RecDims) : (sampleDims d).hidden = d.hidden := rfl

/-- row 0 of `H'` (state of the sample) is row `n` of `H` (state of the batch) -/
def RowRel (n hidden : Nat) (H' H : Tensor α) : Prop := ∀ k, k < hidden → H'.get [0, k] = H.get [n, k]

theorem RowRel_ofFn {n b hidden : Nat} (hn : n < b) {F' F : List Nat → α}
    (h : ∀ k, k < hidden → F' [0, k] = F [n, k]) : RowRel n hidden (ofFn [1, hidden] F') (ofFn [b, hidden] F) :=
  fun k hk => by rw [ofFn_get2 _ _ _ _ _ Nat.one_pos hk, ofFn_get2 _ _ _ _ _ hn hk, h k hk]

/-! ### the iteration -/

omit [Inhabited α] in
/-- `Rel` between the two states is kept by the steps, and `P` holds of the hidden states of related states:
then `P` holds of the collected hidden states, position by position -/
theorem iterate_rel {σ : Type} (Rel : σ → σ → Prop) (P : Tensor α → Tensor α → Prop)
    (step step' : Nat → σ → σ) (hid : σ → Tensor α) (T : Nat)
    (hstep : ∀ t s s', t < T → Rel s' s → Rel (step' t s') (step t s))
    (hhid : ∀ s s', Rel s' s → P (hid s') (hid s)) :
    ∀ m t s s', t + m ≤ T → Rel s' s →
      (∀ i, i < m → P ((Spec.iterate step' hid m t s').1.getD i ⟨[], []⟩)
        ((Spec.iterate step hid m t s).1.getD i ⟨[], []⟩)) ∧
      Rel (Spec.iterate step' hid m t s').2 (Spec.iterate step hid m t s).2 := by
  intro m
  induction m with
  | zero =>
    intro t s s' _ hr
    exact ⟨fun i hi => absurd hi (Nat.not_lt_zero i), hr⟩
  | succ m ih =>
    intro t s s' ht hr
    have h1 := hstep t s s' (by omega) hr
    obtain ⟨i1, i2⟩ := ih (t + 1) (step t s) (step' t s') (by omega) h1
    simp only [Spec.iterate]
    refine ⟨fun i hi => ?_, i2⟩
    cases i with
    | zero => exact hhid _ _ h1
    | succ i => exact i1 i (by omega)

/-! ### the outputs -/

theorem stack_sample (hs hs' : List (Tensor α)) (d : RecDims) (n : Nat) (hn : n < d.batch)
    (h : ∀ t, t < d.seq → RowRel n d.hidden (hs'.getD t ⟨[], []⟩) (hs.getD t ⟨[], []⟩)) :
    stackSpec hs' (sampleDims d) = takeBatch 2 n (stackSpec hs d) := by
  refine ofFn_eq_takeBatch (s := [d.seq, 1, d.batch, d.hidden]) (ax := 2) (n := n) hn fun idx hidx => ?_
  obtain ⟨t, a, b, j, rfl⟩ : ∃ t a b j, idx = [t, a, b, j] := ⟨_, _, _, _, InRange_eq_getD hidx⟩
  simp only [List.set_cons_succ, List.set_cons_zero, InRange] at hidx
  obtain rfl := Nat.lt_one_iff.1 hidx.2.2.1
  exact h t hidx.1 j hidx.2.2.2.1

theorem final_sample (hf hf' : Tensor α) (d : RecDims) (n : Nat) (hn : n < d.batch)
    (h : RowRel n d.hidden hf' hf) : finS (sampleDims d) hf' = takeBatch 1 n (finS d hf) := by
  refine ofFn_eq_takeBatch (s := [1, d.batch, d.hidden]) (ax := 1) (n := n) hn fun idx hidx => ?_
  obtain ⟨a, b, j, rfl⟩ : ∃ a b j, idx = [a, b, j] := ⟨_, _, _, InRange_eq_getD hidx⟩
  simp only [List.set_cons_succ, List.set_cons_zero, InRange] at hidx
  obtain rfl := Nat.lt_one_iff.1 hidx.2.1
  exact h j hidx.2.2.1

/-- A recurrence whose steps act row by row commutes with taking sample `n`: `Rel` relates the state of the
sample to that of the batch, is kept by the steps and gives `RowRel` of the hidden states; `T` is what taking
the sample does to the final outputs. (`T` is explicit: left to unification it stays open until the instance
`Decidable bad'` is asked for.) -/
theorem recSpec_sample {σ β β' : Type} (Rel : σ → σ → Prop) (d : RecDims) (n : Nat) (hn : n < d.batch)
    {bad bad' : Prop} [Decidable bad] [Decidable bad'] (hbad : ¬ bad')
    {s0 s0' : σ} {step step' : Nat → σ → σ} {hid : σ → Tensor α} {fin : σ → β} {fin' : σ → β'} (T : β → β')
    (h0 : Rel s0' s0) (hstep : ∀ t s s', t < d.seq → Rel s' s → Rel (step' t s') (step t s))
    (hhid : ∀ s s', Rel s' s → RowRel n d.hidden (hid s') (hid s))
    (hfin : ∀ sf sf', Rel sf' sf → fin' sf' = T (fin sf))
    {s : Tensor α × β} (hs : recSpec bad d s0 step hid fin = some s) :
    recSpec bad' (sampleDims d) s0' step' hid fin' = some (takeBatch 2 n s.1, T s.2) := by
  obtain ⟨_, rfl⟩ := recSpec_some hs
  obtain ⟨i1, i2⟩ := iterate_rel Rel (RowRel n d.hidden) step step' hid d.seq hstep hhid d.seq 0 s0 s0'
    (by omega) h0
  rw [recSpec, if_neg hbad]
  exact congrArg some (Prod.ext (stack_sample _ _ d n hn i1) (hfin _ _ i2))

/-! ### inputs of a sample -/

/-- an input with the batch on axis 1 (`X`, `H0`, `C0`), read in the sample -/
theorem takeBatch1_get {T : Tensor α} {a b c : Nat} (hT : T.shape = [a, b, c]) (n i k : Nat) (hi : i < a) (hk : k < c) :
    (takeBatch 1 n T).get [i, 0, k] = T.get [i, n, k] :=
  takeBatch_get 1 n T [i, 0, k] (hT ▸ ⟨hi, Nat.one_pos, hk, trivial⟩)

theorem init_sample (zero : α) (H0 : Option (Tensor α)) (d : RecDims) (n : Nat) (hn : n < d.batch)
    (hs : ∀ h, H0 = some h → h.shape = [1, d.batch, d.hidden]) :
    RowRel n d.hidden (initS zero (H0.map (takeBatch 1 n)) 1 d.hidden) (initS zero H0 d.batch d.hidden) := by
  cases H0 with
  | none => exact RowRel_ofFn hn fun _ _ => rfl
  | some h => exact RowRel_ofFn hn fun k hk => takeBatch1_get (hs h rfl) n 0 k Nat.one_pos hk

/-- an optional input of a sample has the shape of the sample -/
theorem optShape_sample (C0 : Option (Tensor α)) (s : List Nat) (n : Nat)
    (h : ∀ c, C0 = some c → c.shape = s) : ∀ c, C0.map (takeBatch 1 n) = some c → c.shape = s.set 1 1 := by
  intro c hc
  obtain ⟨c0, rfl, rfl⟩ := Option.map_eq_some_iff.1 hc
  exact congrArg (·.set 1 1) (h c0 rfl)

theorem shapes_sample (G : Nat) (d : RecDims) (X W R : Tensor α) (B H0 : Option (Tensor α)) (n : Nat)
    (h : recShapesOk G d X W R B H0 = true) :
    recShapesOk G (sampleDims d) (takeBatch 1 n X) W R B (H0.map (takeBatch 1 n)) = true := by
  rw [recShapesOk_iff] at h ⊢
  obtain ⟨h1, h2, h3, h4, h5⟩ := h
  exact ⟨congrArg (·.set 1 1) h1, h2, h3, h4, optShape_sample H0 _ n h5⟩

/-- the recurrences with one state tensor whose step sends every row through a `cell` (RNN with `G = 1`, GRU with
`G = 3`): all that is asked of the cell is that it reads `input` entries of the row of `X` and `hidden` of the
row of `H` -/
theorem recSpec_sample_one (G : Nat) (zero : α) (cell : (Nat → α) → (Nat → α) → Nat → α)
    (d : RecDims) (X W R : Tensor α) (B H0 : Option (Tensor α)) (n : Nat) (hn : n < d.batch)
    (hcell : ∀ x x' hp hp' j, j < d.hidden → (∀ l, l < d.input → x' l = x l) → (∀ l, l < d.hidden → hp' l = hp l) →
      cell x' hp' j = cell x hp j)
    (s : Tensor α × Tensor α)
    (hs : recSpec (!recShapesOk G d X W R B H0 ∨ d.seq = 0) d (initS zero H0 d.batch d.hidden) (rowStep d X cell) id
      (finS d) = some s) :
    recSpec (!recShapesOk G (sampleDims d) (takeBatch 1 n X) W R B (H0.map (takeBatch 1 n)) ∨ (sampleDims d).seq = 0)
      (sampleDims d) (initS zero (H0.map (takeBatch 1 n)) 1 d.hidden) (rowStep (sampleDims d) (takeBatch 1 n X) cell) id
      (finS (sampleDims d)) = some (takeBatch 2 n s.1, takeBatch 1 n s.2) := by
  have hc := (recSpec_some hs).1
  simp only [not_or, Bool.not_eq_true', Bool.not_eq_false] at hc
  obtain ⟨hok, hseq⟩ := hc
  obtain ⟨hX, _, _, _, hH⟩ := (recShapesOk_iff _ _ _ _ _ _ _).1 hok
  refine recSpec_sample (RowRel n d.hidden) d n hn ?_ (takeBatch 1 n) (init_sample zero H0 d n hn hH)
    (fun t H H' ht hr => RowRel_ofFn hn fun k hk => hcell _ _ _ _ k hk
      (fun l hl => takeBatch1_get hX n t l ht hl) hr)
    (fun _ _ h => h) (fun _ _ h => final_sample _ _ d n hn h) hs
  rw [shapes_sample G d X W R B H0 n hok]
  simpa only [Bool.not_true, Bool.false_eq_true, false_or, sampleDims_seq] using hseq

/-! ### RNN -/

theorem rnn_spec_sample (A : Arith α) (f : α → α) (d : RecDims) (X W R : Tensor α) (B H0 : Option (Tensor α))
    (s : Tensor α × Tensor α) (hs : Spec.rnn A f d X W R B H0 = some s) (n : Nat) (hn : n < d.batch) :
    Spec.rnn A f (sampleDims d) (takeBatch 1 n X) W R B (H0.map (takeBatch 1 n)) =
      some (takeBatch 2 n s.1, takeBatch 1 n s.2) :=
  recSpec_sample_one 1 A.zero (fun x hp j => f (gatePre A 1 d.hidden d.input W R B x hp 0 j)) d X W R B H0 n hn
    (fun _ _ _ _ j _ hx hh => congrArg f (gatePre_congr A 1 d.hidden d.input W R B _ _ _ _ 0 j hx hh)) s hs

theorem WF_map_takeBatch (H0 : Option (Tensor α)) (n : Nat) :
    ∀ h, H0.map (takeBatch 1 n) = some h → h.WF := by
  intro h hh
  obtain ⟨_, _, rfl⟩ := Option.map_eq_some_iff.1 hh
  exact ofFn_WF _ _

-- `hsq` follows from `hs`: the specification is undefined for an empty sequence
set_option linter.unusedVariables false in
theorem rnn_batch_partial (A : Arith α) (one : α) (hone : ∀ v, A.mul v one = v)
    (getAct : String → Option (α → α)) (name : String) (f : α → α) (hact : getAct name = some f)
    (d : Spec.RecDims) (X W R : Tensor α) (B H0 : Option (Tensor α))
    (hh : 2 ≤ d.hidden) (hi : 2 ≤ d.input) (hb : 1 ≤ d.batch) (hsq : 1 ≤ d.seq)
    (hWH : ∀ h, H0 = some h → h.WF)
    (s : Tensor α × Tensor α) (hs : Spec.rnn A f d X W R B H0 = some s)
    (n : Nat) (hn : n < d.batch) :
    ∃ y yh y1 yh1,
      rnnOp A one getAct { hiddenSize := d.hidden, activations := [name] } X W R B none H0 = .ok (y, yh) ∧
      rnnOp A one getAct { hiddenSize := d.hidden, activations := [name] } (takeBatch 1 n X) W R B none
        (H0.map (takeBatch 1 n)) = .ok (y1, yh1) ∧
      Equiv y1 (takeBatch 2 n y) ∧ Equiv yh1 (takeBatch 1 n yh) := by
  have hs' := rnn_spec_sample A f d X W R B H0 s hs n hn
  exact ⟨s.1, s.2, _, _,
    rnnOp_spec A one hone getAct name f hact d X W R B H0 hh (two_le_mul _ _ hb hi) hWH s hs,
    rnnOp_spec A one hone getAct name f hact (sampleDims d) (takeBatch 1 n X) W R B _ hh
      (two_le_mul _ _ (Nat.le_refl 1) hi) (WF_map_takeBatch H0 n) _ hs',
    Equiv.refl (ofFn_WF _ _), Equiv.refl (ofFn_WF _ _)⟩

/-! ### GRU -/

theorem gru_spec_sample (A : Arith α) (one : α) (f g : α → α) (lbr : Bool) (d : RecDims) (X W R : Tensor α)
    (B H0 : Option (Tensor α))
    (s : Tensor α × Tensor α) (hs : Spec.gru A one f g lbr d X W R B H0 = some s) (n : Nat) (hn : n < d.batch) :
    Spec.gru A one f g lbr (sampleDims d) (takeBatch 1 n X) W R B (H0.map (takeBatch 1 n)) =
      some (takeBatch 2 n s.1, takeBatch 1 n s.2) :=
  recSpec_sample_one 3 A.zero (gruCell A one f g lbr d.hidden d.input W R B) d X W R B H0 n hn
    (gruCell_congr A one f g lbr d.hidden d.input W R B) s hs

-- `hsq` follows from `hs`
set_option linter.unusedVariables false in
theorem gru_batch_partial (A : Arith α) (one : α) (hone : ∀ v, A.mul v one = v)
    (getAct : String → Option (α → α)) (n1 n2 : String) (f g : α → α) (h1 : getAct n1 = some f) (h2 : getAct n2 = some g)
    (lbr : Bool) (d : Spec.RecDims) (X W R : Tensor α) (B H0 : Option (Tensor α))
    (hh : 2 ≤ d.hidden) (hi : 2 ≤ d.input) (hb : 1 ≤ d.batch) (hsq : 1 ≤ d.seq)
    (hWH : ∀ h, H0 = some h → h.WF)
    (s : Tensor α × Tensor α) (hs : Spec.gru A one f g lbr d X W R B H0 = some s)
    (n : Nat) (hn : n < d.batch) :
    ∃ y yh y1 yh1,
      gruOp A one getAct { hiddenSize := d.hidden, activations := [n1, n2], linearBeforeReset := lbr } X W R B none H0 = .ok (y, yh) ∧
      gruOp A one getAct { hiddenSize := d.hidden, activations := [n1, n2], linearBeforeReset := lbr } (takeBatch 1 n X) W R B none
        (H0.map (takeBatch 1 n)) = .ok (y1, yh1) ∧
      Equiv y1 (takeBatch 2 n y) ∧ Equiv yh1 (takeBatch 1 n yh) := by
  have hs' := gru_spec_sample A one f g lbr d X W R B H0 s hs n hn
  exact ⟨s.1, s.2, _, _,
    gruOp_spec A one hone getAct n1 n2 f g h1 h2 lbr d X W R B H0 hh (two_le_mul _ _ hb hi) hWH s hs,
    gruOp_spec A one hone getAct n1 n2 f g h1 h2 lbr (sampleDims d) (takeBatch 1 n X) W R B _ hh
      (two_le_mul _ _ (Nat.le_refl 1) hi) (WF_map_takeBatch H0 n) _ hs',
    Equiv.refl (ofFn_WF _ _), Equiv.refl (ofFn_WF _ _)⟩

/-! ### LSTM -/

/-- the relation between the (hidden, cell) state of the sample and of the batch -/
def RowRel2 (n hidden : Nat) (st' st : Tensor α × Tensor α) : Prop :=
  RowRel n hidden st'.1 st.1 ∧ RowRel n hidden st'.2 st.2

theorem lstm_step_sample (A : Arith α) (f g h : α → α) (d : RecDims) (X W R : Tensor α)
    (B P : Option (Tensor α))
    (hX : X.shape = [d.seq, d.batch, d.input]) (n : Nat) (hn : n < d.batch)
    (t : Nat) (st st' : Tensor α × Tensor α) (ht : t < d.seq) (hr : RowRel2 n d.hidden st' st) :
    RowRel2 n d.hidden (lstmStepS A f g h (sampleDims d) (takeBatch 1 n X) W R B P t st')
      (lstmStepS A f g h d X W R B P t st) := by
  have hC : RowRel n d.hidden (lstmStepS A f g h (sampleDims d) (takeBatch 1 n X) W R B P t st').2
      (lstmStepS A f g h d X W R B P t st).2 :=
    RowRel_ofFn hn fun k hk => lstmC_congr A f g d.hidden d.input W R B P _ _ _ _ _ _ k
      (fun l hl => takeBatch1_get hX n t l ht hl) hr.1 (hr.2 k hk)
  -- the new hidden state reads the new cell state
  exact ⟨RowRel_ofFn hn fun k hk => lstmH_congr A f h d.hidden d.input W R B P _ _ _ _ _ _ k
    (fun l hl => takeBatch1_get hX n t l ht hl) hr.1 (hC k hk), hC⟩

theorem lstm_spec_sample (A : Arith α) (f g h : α → α) (d : RecDims) (X W R : Tensor α)
    (B H0 C0 P : Option (Tensor α))
    (s : Tensor α × Tensor α × Tensor α) (hs : Spec.lstm A f g h d X W R B H0 C0 P = some s)
    (n : Nat) (hn : n < d.batch) :
    Spec.lstm A f g h (sampleDims d) (takeBatch 1 n X) W R B (H0.map (takeBatch 1 n))
        (C0.map (takeBatch 1 n)) P = some (takeBatch 2 n s.1, takeBatch 1 n s.2.1, takeBatch 1 n s.2.2) := by
  rw [lstm_recSpec] at hs ⊢
  have hc := (recSpec_some hs).1
  simp only [not_or, Bool.not_eq_true', Bool.not_eq_false] at hc
  obtain ⟨hok, hseq, hcok, hpok⟩ := hc
  obtain ⟨hX, _, _, _, hH⟩ := (recShapesOk_iff _ _ _ _ _ _ _).1 hok
  have hC := (optShapeOk_iff _ _).1 hcok
  refine recSpec_sample (RowRel2 n d.hidden) d n hn ?_ (Prod.map (takeBatch 1 n) (takeBatch 1 n)) ?_
    (fun t s s' ht hr => lstm_step_sample A f g h d X W R B P hX n hn t s s' ht hr) (fun _ _ h => h.1)
    (fun _ _ h => Prod.ext (final_sample _ _ d n hn h.1) (final_sample _ _ d n hn h.2)) hs
  · rw [shapes_sample 4 d X W R B H0 n hok, sampleDims_batch, sampleDims_hidden,
      (optShapeOk_iff (C0.map (takeBatch 1 n)) [1, 1, d.hidden]).2 (optShape_sample C0 _ n hC), hpok]
    simpa only [Bool.not_true, Bool.false_eq_true, false_or, or_false, sampleDims_seq] using hseq
  · exact ⟨init_sample A.zero H0 d n hn hH, init_sample A.zero C0 d n hn hC⟩

-- `hsq` follows from `hs`
set_option linter.unusedVariables false in
theorem lstm_batch_partial (A : Arith α) (one : α) (hone : ∀ v, A.mul v one = v)
    (getAct : String → Option (α → α)) (n1 n2 n3 : String) (f g h : α → α)
    (h1 : getAct n1 = some f) (h2 : getAct n2 = some g) (h3 : getAct n3 = some h)
    (d : Spec.RecDims) (X W R : Tensor α) (B H0 C0 P : Option (Tensor α))
    (hh : 2 ≤ d.hidden) (hi : 2 ≤ d.input) (hb : 1 ≤ d.batch) (hsq : 1 ≤ d.seq)
    (hWH : ∀ t, H0 = some t → t.WF) (hWC : ∀ t, C0 = some t → t.WF)
    (s : Tensor α × Tensor α × Tensor α) (hs : Spec.lstm A f g h d X W R B H0 C0 P = some s)
    (n : Nat) (hn : n < d.batch) :
    ∃ y yh yc y1 yh1 yc1,
      lstmOp A one getAct { hiddenSize := d.hidden, activations := [n1, n2, n3] } X W R B none H0 C0 P = .ok (y, yh, yc) ∧
      lstmOp A one getAct { hiddenSize := d.hidden, activations := [n1, n2, n3] } (takeBatch 1 n X) W R B none
        (H0.map (takeBatch 1 n)) (C0.map (takeBatch 1 n)) P = .ok (y1, yh1, yc1) ∧
      Equiv y1 (takeBatch 2 n y) ∧ Equiv yh1 (takeBatch 1 n yh) ∧ Equiv yc1 (takeBatch 1 n yc) := by
  have hs' := lstm_spec_sample A f g h d X W R B H0 C0 P s hs n hn
  exact ⟨s.1, s.2.1, s.2.2, _, _, _,
    lstmOp_spec A one hone getAct n1 n2 n3 f g h h1 h2 h3 d X W R B H0 C0 P hh (two_le_mul _ _ hb hi) hWH hWC s hs,
    lstmOp_spec A one hone getAct n1 n2 n3 f g h h1 h2 h3 (sampleDims d) (takeBatch 1 n X) W R B _ _ P hh
      (two_le_mul _ _ (Nat.le_refl 1) hi) (WF_map_takeBatch H0 n) (WF_map_takeBatch C0 n) _ hs',
    Equiv.refl (ofFn_WF _ _), Equiv.refl (ofFn_WF _ _), Equiv.refl (ofFn_WF _ _)⟩

end Gonnx.Proofs.Batch2
