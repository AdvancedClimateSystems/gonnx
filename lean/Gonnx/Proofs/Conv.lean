import Gonnx.Ops.Conv
import Gonnx.Spec.Conv
import Gonnx.Proofs.Binary
import Gonnx.Proofs.GSlice
/-
C05: the Conv model equals direct convolution. The model works in stages (pad the input, dilate the kernel, cut
a window, multiply and sum, add the bias) and each stage has its own lemma saying what it computes. The padded
input and the dilated kernel are described by their entries (`Tensor.Is`), for which no geometry is needed; only
cutting the window (`convCell_Is`) has to know that what it reads is in range. `Geom` collects what the stages
assume of the geometry and `conv_core` composes them. The channel axis is treated as one more window axis (start
0, dilation 1).
-/
namespace Gonnx.C05
open Gonnx
variable {α : Type} [Inhabited α]

/-- laws about zero (true of exact arithmetic and of IEEE arithmetic on finite values) -/
structure ZeroLaws (A : Arith α) : Prop where
  add_zero : ∀ a, A.add a A.zero = a
  zero_mul : ∀ a, A.mul A.zero a = A.zero
  mul_zero : ∀ a, A.mul a A.zero = A.zero

/-- dilated kernel extents -/
def dkernel (w : Tensor α) (dil : List Nat) : List Nat :=
  List.zipWith (fun k d => (k - 1) * d + 1) (w.shape.drop 2) dil

end Gonnx.C05

namespace Gonnx.Proofs.Conv
open Gonnx Gonnx.Proofs Gonnx.Proofs.GSlice Gonnx.C05 Gonnx.Spec

/-! ### lists -/

theorem all_zipWith {β γ δ : Type} (f : β → γ → δ) (p : δ → Bool) (l1 : List β) (l2 : List γ) :
    (List.zipWith f l1 l2).all p = (l1.zip l2).all (fun q => p (f q.1 q.2)) := by
  rw [← List.map_uncurry_zip_eq_zipWith, List.all_map]
  rfl

/-! ### extents -/

theorem dk_eq (k d : Nat) (hk : 0 < k) (hd : 0 < d) : k + (k - 1) * (d - 1) = (k - 1) * d + 1 := by
  obtain ⟨d', rfl⟩ : ∃ d', d = d' + 1 := ⟨d - 1, by omega⟩
  rw [Nat.add_sub_cancel, Nat.mul_succ]
  omega

theorem convOutDim_nat (inD K pb pe s : Nat) (hfit : K ≤ inD + pb + pe) :
    convOutDim inD K pb pe s = (((inD + pb + pe - K) / s + 1 : Nat) : Int) := by
  unfold convOutDim
  have : (inD : Int) - (K : Int) + (pb : Int) + (pe : Int) = ((inD + pb + pe - K : Nat) : Int) := by omega
  rw [this, ← Int.ofNat_tdiv]
  simp

theorem outdim_eq_spec (inD k d pb pe s : Nat) (hk : 0 < k) (hd : 0 < d)
    (hfit : (k - 1) * d + 1 ≤ inD + pb + pe) :
    convOutDim inD (k + (k - 1) * (d - 1)) pb pe s = (((inD + pb + pe - ((k - 1) * d + 1)) / s + 1 : Nat) : Int) := by
  rw [dk_eq k d hk hd]
  exact convOutDim_nat _ _ _ _ _ hfit

/-- an output position is a window position: the window starting there ends inside -/
theorem window_fit (o T dk s : Nat) (hdk : dk ≤ T) (ho : o < (T - dk) / s + 1) : o * s + dk ≤ T :=
  Nat.add_le_of_le_sub hdk (Nat.le_trans (Nat.mul_le_mul_right s (Nat.lt_succ_iff.1 ho)) (Nat.div_mul_le_self _ _))

/-! ### auto_pad -/

theorem tdiv_two (t : Nat) : Int.tdiv (t : Int) 2 = ((t / 2 : Nat) : Int) := by
  rw [show (2 : Int) = ((2 : Nat) : Int) from rfl, ← Int.ofNat_tdiv]

theorem tdiv_two_succ (t : Nat) : Int.tdiv ((t : Int) + 1) 2 = ((t - t / 2 : Nat) : Int) := by
  rw [show (t : Int) + 1 = ((t + 1 : Nat) : Int) from rfl, tdiv_two]
  omega

/-- Go's `padNeeded`, when it is not negative, is the natural number of the ONNX formula -/
theorem need_cast (d s k : Nat) (hd : 0 < d) (hs : 0 < s) (hneed : d ≤ ((d + s - 1) / s - 1) * s + k) :
    (Int.tdiv ((d : Int) + (s : Int) - 1) (s : Int) - 1) * (s : Int) + (k : Int) - (d : Int) =
      ((((d + s - 1) / s - 1) * s + k - d : Nat) : Int) := by
  have hT : 1 ≤ (d + s - 1) / s := Nat.div_pos (by omega) hs
  -- no subtraction on the right goes below zero, so the cast goes inside
  rw [Int.natCast_sub hneed, Int.natCast_add, Int.natCast_mul, Int.natCast_sub hT, Int.ofNat_tdiv,
    Int.natCast_sub (show 1 ≤ d + s by omega), Int.natCast_add]
  rfl

/-- begin pads then end pads, from one pair per axis: the casts go through -/
theorem pairs_cast {ι : Type} (r : List ι) (F : ι → Int × Int) (G : ι → Nat × Nat)
    (h : ∀ i ∈ r, F i = (((G i).1 : Int), ((G i).2 : Int))) :
    (r.map F).map (·.1) ++ (r.map F).map (·.2) =
      ((r.map G).map (·.1) ++ (r.map G).map (·.2)).map (fun (p : Nat) => (p : Int)) := by
  rw [List.map_congr_left h]
  simp only [List.map_append, List.map_map]
  rfl

theorem same_ne {mode : String} (hm : mode = "SAME_UPPER" ∨ mode = "SAME_LOWER") : mode ≠ "NOTSET" ∧ mode ≠ "VALID" := by
  rcases hm with rfl | rfl <;> decide

theorem autopad_eq_spec_partial (mode : String) (hm : mode = "SAME_UPPER" ∨ mode = "SAME_LOWER")
    (inDims strides dk : List Nat) (hl : strides.length = inDims.length) (hl' : dk.length = inDims.length)
    (hs : ∀ s ∈ strides, 0 < s)
    (hneed : ∀ i, i < inDims.length → dim inDims i ≤ ((dim inDims i + dim strides i - 1) / dim strides i - 1) * dim strides i + dim dk i)
    (hInPos : ∀ d ∈ inDims, 0 < d) :
    autoPads mode inDims strides dk = (Spec.convPads mode [] inDims strides dk).map (fun (p : Nat) => (p : Int)) := by
  unfold autoPads Spec.convPads
  simp only [if_neg (same_ne hm).1, if_neg (same_ne hm).2]
  rw [List.zip_eq_zipWith, zipWith_tab _ (zipWith_tab Prod.mk (tab_dim rfl) (tab_dim hl)) (tab_dim hl')]
  refine pairs_cast _ _ _ fun i hi => ?_
  have hi := List.mem_range.1 hi
  simp only [need_cast _ _ _ (Pos_dim hInPos hi) (Pos_dim hs (by omega)) (hneed i hi)]
  generalize ((dim inDims i + dim strides i - 1) / dim strides i - 1) * dim strides i + dim dk i - dim inDims i = t
  rcases hm with rfl | rfl
  · rw [if_neg (by decide), if_pos rfl, tdiv_two, Int.natCast_sub (Nat.div_le_self t 2)]
  · rw [if_pos rfl, if_neg (by decide), tdiv_two_succ, Int.natCast_sub (Nat.div_le_self t 2), Int.sub_sub_self]

theorem convPads_notset (P inDims strides dk : List Nat) (hP : P.isEmpty = false) :
    Spec.convPads "NOTSET" P inDims strides dk = P := by
  simp [Spec.convPads, hP]

theorem convPads_length (mode : String) (inDims strides dk : List Nat) :
    (Spec.convPads mode [] inDims strides dk).length = 2 * inDims.length := by
  unfold Spec.convPads
  simp only [List.isEmpty_nil, if_true]
  split
  · simp
  · split
    · simp
    · simp; omega

variable {α : Type} [Inhabited α]

/-! ### the padded input and the dilated kernel -/

theorem dilatedKernel_get (zero : α) (w : Tensor α) (dil : List Nat) (idx : List Nat)
    (hidx : InRange idx (dilatedKernel zero w dil).shape) :
    (dilatedKernel zero w dil).get idx =
      if ((idx.drop 2).zip dil).all (fun p => p.1 % p.2 = 0) then
        w.get (idx.take 2 ++ ((idx.drop 2).zip dil).map (fun p => p.1 / p.2))
      else zero := by
  unfold dilatedKernel at hidx ⊢
  simp only [ofFn_shape] at hidx
  rw [get_ofFn _ _ _ hidx]
  simp only [all_zipWith]
  rw [← List.map_uncurry_zip_eq_zipWith]
  rfl

theorem padInput_get (zero : α) (x : Tensor α) (pb pe : List Nat) (idx : List Nat)
    (hidx : InRange idx (padInput zero x pb pe).shape) :
    (padInput zero x pb pe).get idx =
      if ((idx.drop 2).zip ((x.shape.drop 2).zip pb)).all (fun p => p.2.2 ≤ p.1 ∧ p.1 < p.2.2 + p.2.1) then
        x.get (idx.take 2 ++ ((idx.drop 2).zip pb).map (fun p => p.1 - p.2))
      else zero := by
  unfold padInput at hidx ⊢
  simp only [ofFn_shape] at hidx
  rw [get_ofFn _ _ _ hidx]
  simp only [all_zipWith]
  rw [← List.map_uncurry_zip_eq_zipWith]
  rfl

/-- spatial extents of the padded input -/
def padded (inDims pb pe : List Nat) : List Nat :=
  List.zipWith (fun (d : Nat) (p : Nat × Nat) => p.1 + d + p.2) inDims (pb.zip pe)

theorem padded_length (inDims pb pe : List Nat) (hlb : pb.length = inDims.length) (hle : pe.length = inDims.length) :
    (padded inDims pb pe).length = inDims.length := by
  simp [padded, hlb, hle]

theorem dim_padded (inDims pb pe : List Nat) (i : Nat) (hi : i < inDims.length) (hlb : pb.length = inDims.length)
    (hle : pe.length = inDims.length) :
    dim (padded inDims pb pe) i = dim pb i + dim inDims i + dim pe i := by
  simp [padded, dim, List.getD_eq_getElem?_getD, hi, hlb, hle]

theorem padInput_shape (zero : α) (x : Tensor α) (N C : Nat) (inDims pb pe : List Nat)
    (hx : x.shape = N :: C :: inDims) :
    (padInput zero x pb pe).shape = N :: C :: padded inDims pb pe := by
  unfold padInput padded
  simp [hx]

/-- the model's dilated extents `k + (k-1)(d-1)` are the ONNX ones -/
theorem dilatedKernel_shape (zero : α) (w : Tensor α) (dil : List Nat) (hk : Pos (w.shape.drop 2)) (hd : Pos dil) :
    (dilatedKernel zero w dil).shape = w.shape.take 2 ++ dkernel w dil := by
  unfold dilatedKernel dkernel
  rw [ofFn_shape, zipWith_congr _ _ _ _ fun a ha d hd' => dk_eq a d (hk a ha) (hd d hd')]

/-- the specification's read of the input: sample `n`, channel `c`, integer spatial position `pos`; zero
outside the extents `inDims` -/
def readAt (zero : α) (x : Tensor α) (ns : Nat) (inDims : List Nat) (n c : Nat) (pos : List Int) : α :=
  if ((List.range ns).all fun i => decide (0 ≤ pos.getD i 0 ∧ pos.getD i 0 < (dim inDims i : Int))) = true
  then x.get ([n, c] ++ pos.map Int.toNat) else zero

/-- the padded input is the table of the specification's read, shifted by the begin pads -/
theorem padInput_Is (zero : α) {x : Tensor α} {N C : Nat} {inDims pb : List Nat} (pe : List Nat)
    (hx : x.shape = N :: C :: inDims) (hlb : pb.length = inDims.length) (hle : pe.length = inDims.length) :
    (padInput zero x pb pe).Is (N :: C :: padded inDims pb pe) fun idx =>
      readAt zero x inDims.length inDims (idx.getD 0 0) (idx.getD 1 0)
        (List.zipWith (fun (q p : Nat) => (q : Int) - (p : Int)) (idx.drop 2) pb) := by
  have hs := padInput_shape zero x N C inDims pb pe hx
  refine ⟨hs, fun idx hidx => ?_⟩
  match idx, hidx with
  | n :: c :: q, hidx =>
    have hq := tab_dim ((InRange_length hidx.2.2).trans (padded_length _ _ _ hlb hle))
    rw [padInput_get zero x pb pe _ (hs ▸ hidx)]
    simp only [readAt, List.drop_succ_cons, List.drop_zero, List.take_succ_cons, List.take_zero, hx,
      List.getD_cons_zero, List.getD_cons_succ]
    -- as tables over the spatial axes, the two tests agree and so do the two indices
    rw [List.zip_eq_zipWith, List.zip_eq_zipWith, List.zip_eq_zipWith,
      zipWith_tab Prod.mk hq (zipWith_tab Prod.mk (tab_dim rfl) (tab_dim hlb)), zipWith_tab Prod.mk hq (tab_dim hlb),
      zipWith_tab _ hq (tab_dim hlb), List.all_map, List.map_map, List.map_map]
    congr 1
    · congr 1
      refine all_congr_mem _ _ _ fun i hi => ?_
      simp only [Function.comp, getD_map_range _ _ _ _ (List.mem_range.1 hi)]
      rw [decide_eq_decide]
      omega
    · congr 2
      exact List.map_congr_left fun i _ => (Int.toNat_sub _ _).symm

/-- all spatial positions are multiples of the dilation -/
def mulP (dil : List Nat) (idx : List Nat) : Bool := (idx.zip dil).all (fun p => p.1 % p.2 = 0)

/-- position of a tap in the dilated kernel -/
def scale (dil : List Nat) (idx : List Nat) : List Nat := List.zipWith (· * ·) idx dil

theorem scale_cons (d c : Nat) (dil κ : List Nat) : scale (d :: dil) (c :: κ) = c * d :: scale dil κ := rfl

theorem scale_tab {dil κ : List Nat} {n : Nat} (hκ : κ.length = n) (hd : dil.length = n) :
    scale dil κ = (List.range n).map fun i => dim κ i * dim dil i :=
  zipWith_tab _ (tab_dim hκ) (tab_dim hd)

theorem mulP_cons (d i : Nat) (ds x : List Nat) :
    mulP (d :: ds) (i :: x) = (decide (i % d = 0) && mulP ds x) := rfl

/-- the dilated kernel is the table of the taps on the multiples of the dilation (the channel counting as an axis
of dilation 1) and of zeros elsewhere -/
theorem dilatedKernel_Is (zero : α) {w : Tensor α} {M C : Nat} {k dil : List Nat} (hw : w.shape = M :: C :: k)
    (hk : Pos k) (hd : Pos dil) :
    (dilatedKernel zero w dil).Is (M :: C :: dkernel w dil) fun idx =>
      if mulP (1 :: dil) idx.tail then w.get (idx.headD 0 :: (idx.tail.zip (1 :: dil)).map fun p => p.1 / p.2)
      else zero := by
  have hs : (dilatedKernel zero w dil).shape = M :: C :: dkernel w dil := by
    rw [dilatedKernel_shape zero w dil (by rw [hw]; exact hk) hd, hw]; rfl
  refine ⟨hs, fun idx hidx => ?_⟩
  match idx, hidx with
  | m :: c :: κ, hidx =>
    rw [dilatedKernel_get zero w dil _ (hs ▸ hidx)]
    simp only [mulP, List.zip_cons_cons, List.all_cons, Nat.mod_one, decide_true, Bool.true_and, List.drop_succ_cons,
      List.drop_zero, List.take_succ_cons, List.take_zero, List.cons_append, List.nil_append, List.map_cons,
      Nat.div_one, List.tail_cons, List.headD_cons]

/-! ### the window -/

/-- One output cell, for a padded input and a kernel with the entries `F` and `G`: the fixed-order sum over the
window at `starts` (`getSubImage`: batch position `b`, all channels, that is a window at 0) against the kernel of
output channel `m`. The window fits, so every read is in range; its extents are ≥ 2, so gorgonia drops no axis
and neither slice is a single element. -/
theorem convCell_Is (A : Arith α) {px kern : Tensor α} {F G : List Nat → α} {N C M : Nat} {P dk : List Nat}
    (hpx : px.Is (N :: C :: P) F) (hkern : kern.Is (M :: C :: dk) G) {b m : Nat} (hb : b < N) (hm : m < M)
    (hC : 0 < C) (hne : 0 < P.length) (starts : List Nat)
    (hl1 : starts.length = P.length) (hl2 : dk.length = P.length) (hk : ∀ k ∈ dk, 2 ≤ k)
    (hfit : ∀ j, j < P.length → dim starts j + dim dk j ≤ dim P j) :
    convCell A px kern b m starts = .ok ((allIdx (C :: dk)).foldl (fun acc idx =>
      A.add acc (A.mul (F (b :: List.zipWith (· + ·) (0 :: starts) idx)) (G (m :: idx)))) A.zero) := by
  have hk' : ∀ j, j < P.length → 2 ≤ dim dk j := fun j hj => hk _ (dim_mem (hl2 ▸ hj))
  have hP : Pos P := Pos_of_dim fun j hj => by have := hfit j hj; have := hk' j hj; omega
  have h2 : 2 ≤ dim (C :: dk) 1 := hk' 0 hne
  have hfit' : ∀ j, j < (C :: P).length → dim (0 :: starts) j + dim (C :: dk) j ≤ dim (C :: P) j := fun j hj => by
    cases j with
    | zero => exact Nat.le_of_eq (Nat.zero_add C)
    | succ j => exact hfit j (by simpa using hj)
  unfold convCell
  simp only [hkern.1, List.drop_succ_cons, List.drop_zero, List.cons_append, List.nil_append]
  rw [show gSlice kern [some ⟨m, m + 1, 1⟩] = _ from
      gSlice_row kern M m (C :: dk) 0 hkern.1 hm (Pos_cons hC fun n hn => by have := hk n hn; omega) (Nat.zero_le _)
        ⟨1, by simpa [hl2] using hne, h2⟩,
    gSlice_at px N b (C :: P) (0 :: starts) (C :: dk) _ hpx.1 hb (Pos_cons hC hP)
      (by simp [hl1, hl2]) (by simp [hl1]) (by simp [hl2])
      (fun j hj => by
        cases j with
        | zero => exact .inl ⟨rfl, rfl, rfl⟩
        | succ j =>
          have hj : j < P.length := by simpa using hj
          exact .inr ⟨getD_zipWith _ _ _ j (hl1 ▸ hj) (hl2 ▸ hj) none 0 0, hk' j hj, hfit j hj⟩)
      ⟨1, by simpa using hne, h2⟩]
  simp only
  rw [unidir_same _ _ (by rw [ofFn_shape, ofFn_shape])]
  simp only [zipSame_ofFn]
  refine congrArg Except.ok (List.foldl_map.trans (foldl_congr_mem _ _ _ _ fun acc idx hin => ?_))
  have hidx := mem_allIdx.1 hin
  rw [hkern.2 (m :: idx) ⟨hm, hidx⟩,
    hpx.2 (b :: _) ⟨hb, InRange_window (S := C :: P) (by simp [hl1]) (by simp [hl2]) hfit' hidx⟩]

/-! ### skipping the zeros of the dilated kernel -/

theorem filter_mul_range (d j : Nat) (hd : 0 < d) :
    (List.range (j * d + 1)).filter (fun i => i % d = 0) = (List.range (j + 1)).map (· * d) := by
  induction j with
  | zero => simp
  | succ j ih =>
    have e : (j + 1) * d + 1 = (j * d + 1) + (d - 1) + 1 := by rw [Nat.succ_mul]; omega
    rw [e, List.range_succ, List.range_add, List.filter_append, List.filter_append, ih]
    have h1 : List.filter (fun i => decide (i % d = 0)) (List.map (fun x => j * d + 1 + x) (List.range (d - 1))) = [] := by
      rw [List.filter_eq_nil_iff]
      intro a ha
      simp only [List.mem_map, List.mem_range] at ha
      obtain ⟨t, ht, rfl⟩ := ha
      have : (j * d + 1 + t) % d = 1 + t := by
        rw [Nat.add_assoc, Nat.add_comm, Nat.add_mul_mod_self_right, Nat.mod_eq_of_lt (by omega)]
      simp [this]
    have h2 : (j * d + 1 + (d - 1)) = (j + 1) * d := by rw [Nat.succ_mul]; omega
    rw [h1, h2]
    simp [List.range_succ]

omit [Inhabited α] in
/-- a fold over the cells of a dilated kernel whose steps off the multiples of the dilation do nothing is the fold
over the taps: tap `t` sits in cell `scale dil t`, and dividing a cell by the dilation gives its tap back -/
theorem foldl_allIdx_scale (k dil : List Nat) (hl : dil.length = k.length) (hk : Pos k) (hd : Pos dil)
    (g : α → List Nat → List Nat → α) (a : α) :
    (allIdx (List.zipWith (fun k d => (k - 1) * d + 1) k dil)).foldl
        (fun acc i => if mulP dil i then g acc i ((i.zip dil).map fun p => p.1 / p.2) else acc) a =
      (allIdx k).foldl (fun acc t => g acc (scale dil t) t) a := by
  induction k generalizing dil g a with
  | nil =>
    obtain rfl : dil = [] := List.eq_nil_of_length_eq_zero hl
    simp [allIdx, mulP, scale]
  | cons k1 ks ih =>
    cases dil with
    | nil => simp at hl
    | cons d1 ds =>
      have hk1 : 0 < k1 := hk k1 (by simp)
      have hd1 : 0 < d1 := hd d1 (by simp)
      simp only [List.zipWith_cons_cons, allIdx, List.foldl_flatMap, List.foldl_map, scale_cons, List.zip_cons_cons,
        List.map_cons]
      -- a row of the dilated kernel at a multiple of `d1` is a row of taps; any other row does nothing
      have hrow : ∀ acc i, (allIdx (List.zipWith (fun k d => (k - 1) * d + 1) ks ds)).foldl
          (fun acc x => if mulP (d1 :: ds) (i :: x) then g acc (i :: x) (i / d1 :: (x.zip ds).map fun p => p.1 / p.2)
            else acc) acc =
          if decide (i % d1 = 0) = true then (allIdx ks).foldl (fun acc t => g acc (i :: scale ds t) (i / d1 :: t)) acc
          else acc := by
        intro acc i
        by_cases hi : i % d1 = 0
        · rw [if_pos (decide_eq_true hi), ← ih ds (by simpa using hl) (fun n hn => hk n (by simp [hn]))
            (fun n hn => hd n (by simp [hn])) (fun acc x t => g acc (i :: x) (i / d1 :: t))]
          simp only [mulP_cons, decide_eq_true hi, Bool.true_and]
        · rw [if_neg (by simpa using hi)]
          exact foldl_fixed _ _ _ fun acc x _ => by rw [mulP_cons, decide_eq_false hi, Bool.false_and]; rfl
      simp only [hrow]
      rw [← List.foldl_filter (p := fun i => decide (i % d1 = 0)), filter_mul_range d1 (k1 - 1) hd1,
        show k1 - 1 + 1 = k1 by omega, List.foldl_map]
      simp only [Nat.mul_div_cancel _ hd1]

/-! ### the geometry -/

/-- spatial extents of the output -/
def outDims (inDims pb pe dk strides : List Nat) : List Nat :=
  (List.range inDims.length).map fun i => (dim inDims i + dim pb i + dim pe i - dim dk i) / dim strides i + 1

/-- What the stage lemmas assume of one convolution: input `N × C × inDims`, kernel `M × C × k`, one dilation,
stride, begin pad and end pad per spatial axis, positive channel and kernel extents, dilated kernel extents ≥ 2
(gorgonia drops a sliced axis of extent 1) that fit the padded input. One record, so that the four lemmas that
need these facts take one argument and each proof names the fields it uses. -/
structure Geom (x w : Tensor α) (N C M : Nat) (inDims k dil strides pb pe : List Nat) : Prop where
  hx : x.shape = N :: C :: inDims
  hw : w.shape = M :: C :: k
  hne : 0 < inDims.length
  hlk : k.length = inDims.length
  hld : dil.length = inDims.length
  hls : strides.length = inDims.length
  hlb : pb.length = inDims.length
  hle : pe.length = inDims.length
  hC : 0 < C
  hpk : Pos k
  hpd : Pos dil
  hk2 : ∀ e ∈ dkernel w dil, 2 ≤ e
  hfit : ∀ i, i < inDims.length → dim (dkernel w dil) i ≤ dim inDims i + dim pb i + dim pe i

namespace Geom
omit [Inhabited α]
variable {x w : Tensor α} {N C M : Nat} {inDims k dil strides pb pe : List Nat}
  (g : Geom x w N C M inDims k dil strides pb pe)
include g

theorem dk_length : (dkernel w dil).length = inDims.length := by
  simp [dkernel, g.hw, g.hlk, g.hld]

theorem kern_shape [Inhabited α] (zero : α) : (dilatedKernel zero w dil).shape = M :: C :: dkernel w dil :=
  (dilatedKernel_Is zero g.hw g.hpk g.hpd).1

theorem px_shape [Inhabited α] (zero : α) : (padInput zero x pb pe).shape = N :: C :: padded inDims pb pe :=
  padInput_shape zero x N C inDims pb pe g.hx

/-- every output position is a window position -/
theorem window {o : List Nat} (ho : InRange o (outDims inDims pb pe (dkernel w dil) strides)) :
    o.length = inDims.length ∧ ∀ i, i < inDims.length →
      dim o i * dim strides i + dim (dkernel w dil) i ≤ dim pb i + dim inDims i + dim pe i := by
  rw [InRange_dim] at ho
  simp only [outDims, List.length_map, List.length_range] at ho
  refine ⟨ho.1, fun i hi => ?_⟩
  have h1 := ho.2 i hi
  rw [dim_map_range _ _ _ hi] at h1
  have := window_fit _ _ _ _ (g.hfit i hi) h1
  omega

end Geom

/-- one output cell as the fixed-order sum over the taps of the undilated kernel, for a padded input with the
entries `F` and a window at `starts` that fits it (the channel counting as a window axis: start 0, dilation 1) -/
theorem convCell_taps (A : Arith α) (hz : ∀ a, A.add a A.zero = a) (hmz : ∀ a, A.mul a A.zero = A.zero)
    {x w : Tensor α} {N C M : Nat} {inDims k dil strides pb pe : List Nat}
    (g : Geom x w N C M inDims k dil strides pb pe) {F : List Nat → α}
    (hpx : (padInput A.zero x pb pe).Is (N :: C :: padded inDims pb pe) F) {b m : Nat} (hb : b < N) (hm : m < M)
    (starts : List Nat) (hl : starts.length = inDims.length)
    (hfit : ∀ j, j < inDims.length → dim starts j + dim (dkernel w dil) j ≤ dim pb j + dim inDims j + dim pe j) :
    convCell A (padInput A.zero x pb pe) (dilatedKernel A.zero w dil) b m starts =
      .ok ((allIdx (C :: k)).foldl (fun acc tap =>
        A.add acc (A.mul (F (b :: List.zipWith (· + ·) (0 :: starts) (scale (1 :: dil) tap))) (w.get (m :: tap))))
        A.zero) := by
  have hdk : C :: dkernel w dil = List.zipWith (fun k d => (k - 1) * d + 1) (C :: k) (1 :: dil) := by
    simp only [dkernel, g.hw, List.drop_succ_cons, List.drop_zero, List.zipWith_cons_cons, Nat.mul_one]
    rw [Nat.sub_add_cancel g.hC]
  have hd1 : Pos (1 :: dil) := Pos_cons Nat.one_pos g.hpd
  have hPl := padded_length inDims pb pe g.hlb g.hle
  rw [convCell_Is A hpx (dilatedKernel_Is A.zero g.hw g.hpk g.hpd) hb hm g.hC (hPl ▸ g.hne) starts (by rw [hPl, hl])
    (by rw [hPl, g.dk_length]) g.hk2
    (fun j hj => by rw [hPl] at hj; rw [dim_padded _ _ _ _ hj g.hlb g.hle]; exact hfit j hj), hdk]
  -- a cell of the dilated kernel is a tap or zero, and zero contributes nothing
  refine congrArg Except.ok ((foldl_congr_mem _ _ _ _ fun acc idx _ => ?_).trans
    (foldl_allIdx_scale (C :: k) (1 :: dil) (by simp [g.hlk, g.hld]) (Pos_cons g.hC g.hpk) hd1
      (fun acc i t => A.add acc (A.mul (F (b :: List.zipWith (· + ·) (0 :: starts) i)) (w.get (m :: t)))) A.zero))
  show A.add acc (A.mul _ (if mulP (1 :: dil) idx then _ else A.zero)) = _
  split
  · rfl
  · rw [hmz, hz]

/-! ### one output cell -/

/-- the accumulated sum of the spec at one output index -/
def specAcc (A : Arith α) (dil strides pb inDims k : List Nat) (x w : Tensor α) (ns C : Nat) (idx : List Nat) : α :=
  (allIdx (C :: k)).foldl (fun acc tap =>
    A.add acc (A.mul
      (readAt A.zero x ns inDims (idx.getD 0 0) (tap.getD 0 0) ((List.range ns).map fun i =>
        (((idx.drop 2).getD i 0 * dim strides i + (tap.drop 1).getD i 0 * dim dil i : Nat) : Int) - (dim pb i : Int)))
      (w.get ([idx.getD 1 0, tap.getD 0 0] ++ tap.drop 1)))) A.zero

theorem go_eq (A : Arith α) (dil strides pb inDims k : List Nat) (x w : Tensor α) (bias : Option (Tensor α))
    (ns : Nat) (pe dk : List Nat) :
    Spec.conv.go A dil strides pb inDims k x w bias ns pe dk =
      ofFn ([dim x.shape 0, dim w.shape 0] ++
          (List.range ns).map fun i => (dim inDims i + dim pb i + dim pe i - dim dk i) / dim strides i + 1)
        fun idx => match bias with
          | some b => A.add (specAcc A dil strides pb inDims k x w ns (dim x.shape 1) idx) (b.get [idx.getD 1 0])
          | none => specAcc A dil strides pb inDims k x w ns (dim x.shape 1) idx := rfl

section cell
variable {x w : Tensor α} {N C M : Nat} {inDims k dil strides pb pe : List Nat}

/-- the loop bound `h < paddedDim` holds at every output position -/
theorem cell_reached (zero : α) (g : Geom x w N C M inDims k dil strides pb pe) {o : List Nat}
    (ho : InRange o (outDims inDims pb pe (dkernel w dil) strides)) :
    ((List.range inDims.length).all fun i =>
      decide (o.getD i 0 * dim strides i < dim (padInput zero x pb pe).shape (2 + i))) = true := by
  obtain ⟨_, hwin⟩ := g.window ho
  rw [List.all_eq_true]
  intro i hi
  have hi := List.mem_range.1 hi
  rw [decide_eq_true_eq, g.px_shape zero, Nat.add_comm 2 i]
  show dim o i * _ < dim (_ :: _ :: _) (i + 1 + 1)
  rw [dim_cons_succ, dim_cons_succ, dim_padded _ _ _ _ hi g.hlb g.hle]
  have := hwin i hi
  have := g.hk2 _ (dim_mem (g.dk_length ▸ hi))
  omega

/-- one output cell of the model is the spec's accumulated sum -/
theorem cell_value (A : Arith α) (hA : ZeroLaws A) (g : Geom x w N C M inDims k dil strides pb pe)
    {n m : Nat} {o : List Nat} (hn : n < N) (hm : m < M)
    (ho : InRange o (outDims inDims pb pe (dkernel w dil) strides)) :
    convCell A (padInput A.zero x pb pe) (dilatedKernel A.zero w dil) n m (List.zipWith (· * ·) o strides) =
      .ok (specAcc A dil strides pb inDims k x w inDims.length C (n :: m :: o)) := by
  obtain ⟨hol, hwin⟩ := g.window ho
  -- the window starts at `o·s`
  have hst := zipWith_tab (· * ·) (tab_dim hol) (tab_dim g.hls)
  rw [convCell_taps A hA.add_zero hA.mul_zero g (padInput_Is A.zero pe g.hx g.hlb g.hle) hn hm _
    (by rw [hst, List.length_map, List.length_range])
    (fun j hj => by rw [hst, dim_map_range _ _ _ hj]; exact hwin j hj)]
  refine congrArg Except.ok (foldl_congr_mem _ _ _ _ fun acc tap htap => ?_)
  match tap, mem_allIdx.1 htap with
  | c :: κ, ⟨_, hκ⟩ =>
    -- and the tap reads the input at `o·s + κ·d - pb`
    have hpos := zipWith_tab (fun (q p : Nat) => (q : Int) - (p : Int))
      (zipWith_tab (· + ·) hst (scale_tab ((InRange_length hκ).trans g.hlk) g.hld)) (tab_dim g.hlb)
    simp only [scale_cons, List.zipWith_cons_cons, Nat.mul_one, Nat.zero_add, List.getD_cons_zero, List.getD_cons_succ,
      List.drop_succ_cons, List.drop_zero, List.cons_append, List.nil_append]
    rw [hpos]
    rfl

end cell

/-! ### the bias step -/

/-- `addBias`: the bias reshaped to `1 × M × 1 (× 1)` is added to every cell of its channel -/
theorem addBias_eq (A : Arith α) (N M ns : Nat) (osp : List Nat) (F : List Nat → α) (bvec : Tensor α)
    (hns : osp.length = ns) (hbs : bvec.shape = [M]) (hbW : bvec.WF) :
    (match unidirBroadcast (ofFn (N :: M :: osp) F) ⟨1 :: M :: List.replicate ns 1, bvec.data⟩ with
      | .error e => (.error e : Res (Tensor α))
      | .ok (o', b') => zipSame A.add o' b') =
      .ok (ofFn (N :: M :: osp) fun idx => A.add (F idx) (bvec.get [idx.getD 1 0])) := by
  subst hns
  have hc : UniCompat (N :: M :: osp) (1 :: M :: List.replicate osp.length 1) := by
    refine ⟨by simp, fun j hj => ?_⟩
    rw [show (N :: M :: osp).length = (1 :: M :: List.replicate osp.length 1).length by simp, padShape_self]
    match j with
    | 0 => exact .inr rfl
    | 1 => exact .inl rfl
    | j+2 =>
      right
      simp only [dim_cons_succ, dim_replicate]
      rw [if_pos (by simpa using hj)]
  -- the reshaped bias is the table `idx ↦ bvec[idx₁]`: the axes of extent 1 carry no offset
  rw [reshape_eq_ofFn bvec hbW (1 :: M :: List.replicate osp.length 1) (by simp [hbs, prod_replicate_one])
    (fun idx => [idx.getD 1 0]) fun idx hi => by
      match idx, hi with
      | i0 :: i1 :: rest, ⟨h0, _, hr⟩ =>
        have h := ravel_lt _ _ hr
        rw [prod_replicate_one] at h
        obtain rfl := Nat.lt_one_iff.1 h0
        simp only [hbs, ravel, prod_cons, prod_nil, prod_replicate_one, List.getD_cons_succ, List.getD_cons_zero]
        omega]
  refine (applyBinary_uni_dense A.add _ _ (ofFn_WF _ _) (ofFn_WF _ _)).trans ((if_pos hc).trans ?_)
  refine congrArg _ (ofFn_congr fun idx hidx => ?_)
  simp only [ofFn_shape] at hidx ⊢
  rw [get_ofFn _ F idx hidx, get_ofFn _ _ _ (InRange_pin hc hidx)]
  -- `pin` leaves the channel entry: it lies below the extent `M` of its axis
  match idx, hidx with
  | n :: m :: o, ⟨_, hm, ho⟩ =>
    have : (n :: m :: o).length - (1 :: M :: List.replicate osp.length 1).length = 0 := by simp [InRange_length ho]
    simp only [pin, this, List.drop_zero, List.zipWith_cons_cons, List.getD_cons_succ, List.getD_cons_zero]
    split
    · next h => rw [h] at hm; rw [Nat.lt_one_iff.1 hm]
    · rfl

/-! ### the operator -/

theorem any_zero_cast (l : List Nat) (h : Pos l) :
    ((l.map (fun (p : Nat) => (p : Int))).any fun x => decide (x = 0)) = false := by
  rw [List.any_eq_false]; intro a ha
  obtain ⟨n, hn, rfl⟩ := List.mem_map.1 ha
  have := h n hn
  simp only [decide_eq_true_eq]; omega

theorem any_zero (l : List Nat) (h : Pos l) : (l.any fun x => decide (x = 0)) = false := by
  rw [List.any_eq_false]; intro a ha; have := h a ha; simp only [decide_eq_true_eq]; omega

theorem rank_ok (n : Nat) (h : n = 1 ∨ n = 2) : ¬ (¬ n + 1 + 1 = 3 ∧ ¬ n + 1 + 1 = 4) := by omega

theorem conv_refuses_rank (A : Arith α) (at0 : ConvAttrs) (x w : Tensor α) (bias : Option (Tensor α))
    (h : 4 < x.shape.length) : convOp A at0 x w bias = .error .inputInvalid := by
  unfold convOp
  rw [if_pos (by omega), if_neg (by omega)]

theorem conv_core (A : Arith α) (hA : ZeroLaws A) {x w : Tensor α} (bias : Option (Tensor α))
    {N C M : Nat} {inDims k dil strides p pb pe : List Nat} (g : Geom x w N C M inDims k dil strides pb pe)
    (hpb : p.take inDims.length = pb) (hpe : p.drop inDims.length = pe)
    (hns : inDims.length = 1 ∨ inDims.length = 2) (hN : 0 < N) (hM : 0 < M) (hps : Pos strides)
    (hbias : ∀ b, bias = some b → b.shape = [M] ∧ b.WF)
    (mode : String) (pads0 P0 : List Int)
    (hP0 : P0 = if pads0.isEmpty then List.replicate (2 * inDims.length) 0 else pads0)
    (hl0 : P0.length = 2 * inDims.length)
    (hp : (if ¬ mode = "NOTSET" then autoPads mode inDims strides (dkernel w dil) else P0) =
      p.map (fun (p : Nat) => (p : Int))) :
    convOp A { autoPad := mode, dilations := dil, strides := strides, pads := pads0 } x w bias =
      .ok (Spec.conv.go A dil strides pb inDims k x w bias inDims.length pe (dkernel w dil)) := by
  have hosp : (List.range inDims.length).map (fun i => convOutDim (dim inDims i) (dim (dkernel w dil) i)
        ((pb.getD i 0 : Nat) : Int) ((pe.getD i 0 : Nat) : Int) (dim strides i)) =
      (outDims inDims pb pe (dkernel w dil) strides).map (fun (p : Nat) => (p : Int)) := by
    rw [outDims, List.map_map]
    exact List.map_congr_left fun i hi => convOutDim_nat _ _ _ _ _ (g.hfit i (List.mem_range.1 hi))
  have hopos : Pos (outDims inDims pb pe (dkernel w dil) strides) := fun n hn => by
    obtain ⟨i, _, rfl⟩ := List.mem_map.1 hn; exact Nat.succ_pos _
  have e2 : inDims.length + 1 + 1 - 2 = inDims.length := rfl
  obtain ⟨v0, hv0⟩ : ∃ v, convCell A (padInput A.zero x pb pe) (dilatedKernel A.zero w dil) 0 0
      (List.replicate inDims.length 0) = .ok v :=
    ⟨_, convCell_taps A hA.add_zero hA.mul_zero g (padInput_Is A.zero pe g.hx g.hlb g.hle) hN hM _ List.length_replicate fun j hj => by
      rw [dim_replicate, if_pos hj]; have := g.hfit j hj; omega⟩
  unfold convOp
  simp only [g.hx, g.hw, g.kern_shape A.zero, isEmpty_of_length_pos g.hld g.hne, isEmpty_of_length_pos g.hls g.hne,
    g.hld, g.hls, g.hlk,
    List.length_cons, List.drop_succ_cons, List.drop_zero, e2, if_neg (rank_ok _ hns),
    Bool.false_eq_true, if_false, ne_eq, not_true_eq_false, or_self, any_zero _ hps, any_zero _ g.hpd, ← hP0, hl0,
    hp, any_neg_cast, ← List.map_take, ← List.map_drop, hpb, hpe, hosp, any_zero_cast _ hopos, map_toNat_cast, hv0,
    dim_cons_zero]
  rw [go_eq, ofFn_congr (g := specAcc A dil strides pb inDims k x w inDims.length C)]
  · simp only [g.hx, g.hw, dim_cons_zero, dim_cons_succ]
    cases bias with
    | none => rfl
    | some bvec =>
      obtain ⟨hbs, hbW⟩ := hbias bvec rfl
      simp only [hbs, List.length_cons, List.length_nil, dim_cons_zero, List.cons_append, List.nil_append, prod_cons,
        prod_nil, prod_replicate_one, Nat.mul_one, Nat.one_mul, Nat.succ_ne_zero, not_true_eq_false, if_false]
      exact addBias_eq A N M inDims.length _ _ bvec (by rw [outDims, List.length_map, List.length_range]) hbs hbW
  · intro idx hidx
    match idx, hidx with
    | n :: m :: o, ⟨hn, hm, ho⟩ =>
      simp only [List.drop_succ_cons, List.drop_zero, List.getD_cons_zero, List.getD_cons_succ]
      rw [if_pos (cell_reached A.zero g ho), cell_value A hA g hn hm ho]

/-! ### `Spec.conv` -/

/-- when `Spec.conv` is defined and what it is then (`dil'`, `strides'`: the attributes with their
defaults filled in; `p`: the pads `Spec.convPads` settles on) -/
theorem spec_conv_some_iff (A : Arith α) (mode : String) (dil strides pads : List Nat) (x w : Tensor α)
    (bias : Option (Tensor α)) (s : Tensor α) (dil' strides' p : List Nat)
    (hd : dil' = if dil.isEmpty then List.replicate (x.shape.length - 2) 1 else dil)
    (hst : strides' = if strides.isEmpty then List.replicate (x.shape.length - 2) 1 else strides)
    (hp : p = Spec.convPads mode pads (x.shape.drop 2) strides' (dkernel w dil')) :
    Spec.conv A mode dil strides pads x w bias = some s ↔
      (x.shape.length = 3 ∨ x.shape.length = 4) ∧ w.shape.length = x.shape.length ∧
      dim w.shape 1 = dim x.shape 1 ∧
      (∀ i, i < x.shape.length - 2 → dim (dkernel w dil') i ≤ dim (x.shape.drop 2) i +
        dim (p.take (x.shape.length - 2)) i + dim (p.drop (x.shape.length - 2)) i) ∧
      (∀ b, bias = some b → b.shape = [dim w.shape 0]) ∧
      s = Spec.conv.go A dil' strides' (p.take (x.shape.length - 2)) (x.shape.drop 2) (w.shape.drop 2) x w bias
        (x.shape.length - 2) (p.drop (x.shape.length - 2)) (dkernel w dil') := by
  subst hd hst hp
  unfold Spec.conv dkernel
  -- each guard is an `if _ then none else _`; with and without a bias the value is the same `go`
  cases bias <;>
  simp only [Option.ite_none_left_eq_some, not_or, Decidable.not_and_iff_not_or_not, ne_eq, Decidable.not_not,
    Bool.not_eq_true, List.any_eq_false, List.mem_range, decide_eq_true_eq, Nat.not_lt, and_assoc,
    Option.some.injEq, reduceCtorEq, false_implies, implies_true, eq_comm (a := s), true_and, forall_eq']

/-- a pad list holds the begin pads, then as many end pads -/
theorem pads_split {p : List Nat} {n : Nat} (h : p.length = 2 * n) : (p.take n).length = n ∧ (p.drop n).length = n := by
  rw [List.length_take, List.length_drop, h, Nat.two_mul, Nat.add_sub_cancel]
  exact ⟨Nat.min_eq_left (Nat.le_add_right n n), rfl⟩

theorem shape_split (l : List Nat) (h : l.length = 3 ∨ l.length = 4) :
    ∃ a b t, l = a :: b :: t ∧ (t.length = 1 ∨ t.length = 2) := by
  match l, h with
  | a :: b :: t, h => exact ⟨a, b, t, rfl, by simp at h; omega⟩
  | [], h => simp at h
  | [_], h => simp at h

/-- model = spec for any auto_pad mode, once the pads the model settles on (`P0` from the attribute, or
`autoPads`) are the pads `p` that `Spec.convPads` settles on -/
theorem conv_eq_spec (A : Arith α) (hA : ZeroLaws A) (x w : Tensor α) (bias : Option (Tensor α))
    (mode : String) (dil strides pads : List Nat) (pads0 P0 : List Int)
    (hWb : ∀ b, bias = some b → b.WF)
    (hpx : Pos x.shape) (hpw : Pos w.shape)
    (hrank : x.shape.length = 3 ∨ x.shape.length = 4)
    (hdl : dil.length = x.shape.length - 2) (hsl : strides.length = x.shape.length - 2)
    (hdp : ∀ d ∈ dil, 0 < d) (hsp : ∀ s ∈ strides, 0 < s)
    (hk2 : ∀ k ∈ dkernel w dil, 2 ≤ k)
    (p : List Nat) (hp : p = Spec.convPads mode pads (x.shape.drop 2) strides (dkernel w dil))
    (hpl : p.length = 2 * (x.shape.length - 2))
    (hP0 : P0 = if pads0.isEmpty then List.replicate (2 * (x.shape.length - 2)) 0 else pads0)
    (hl0 : P0.length = 2 * (x.shape.length - 2))
    (hmodel : (if ¬ mode = "NOTSET" then autoPads mode (x.shape.drop 2) strides (dkernel w dil) else P0) =
      p.map (fun (p : Nat) => (p : Int)))
    (s : Tensor α) (hs : Spec.conv A mode dil strides pads x w bias = some s) :
    convOp A { autoPad := mode, dilations := dil, strides := strides, pads := pads0 } x w bias = .ok s ∧ s.WF := by
  obtain ⟨_, hwl, hwc, hfit, hbs, rfl⟩ := (spec_conv_some_iff A mode dil strides pads x w bias s dil strides p
    (by rw [isEmpty_of_length_pos hdl (by omega)]; rfl) (by rw [isEmpty_of_length_pos hsl (by omega)]; rfl) hp).1 hs
  obtain ⟨N, C, inDims, hx, hns⟩ := shape_split x.shape hrank
  obtain ⟨M, C', k, hw, _⟩ := shape_split w.shape (by rw [hwl]; exact hrank)
  simp only [hx, hw, List.length_cons, dim_cons_succ, dim_cons_zero, List.drop_succ_cons, List.drop_zero]
    at hwl hwc hfit hbs hdl hsl hpl hpx hpw hP0 hl0 hmodel ⊢
  subst hwc
  refine ⟨?_, by rw [go_eq]; exact ofFn_WF _ _⟩
  exact conv_core A hA bias (x := x) (w := w) (p := p)
    ⟨hx, hw, hns.elim (· ▸ Nat.one_pos) (· ▸ Nat.two_pos), by omega, hdl, hsl, (pads_split hpl).1,
      (pads_split hpl).2, hpx C' (by simp), fun n hn => hpw n (by simp [hn]), hdp, hk2, hfit⟩
    rfl rfl hns (hpx N (by simp)) (hpw M (by simp)) hsp (fun b hb => ⟨hbs b hb, hWb b hb⟩) mode pads0 P0 hP0 hl0
    hmodel

theorem conv_explicit_partial (A : Arith α) (hA : ZeroLaws A) (x w : Tensor α) (bias : Option (Tensor α))
    (dil strides pads : List Nat)
    (hWb : ∀ b, bias = some b → b.WF)
    (hpx : Pos x.shape) (hpw : Pos w.shape)
    (hrank : x.shape.length = 3 ∨ x.shape.length = 4)
    (hdl : dil.length = x.shape.length - 2) (hsl : strides.length = x.shape.length - 2)
    (hpl : pads.length = 2 * (x.shape.length - 2))
    (hdp : ∀ d ∈ dil, 0 < d) (hsp : ∀ s ∈ strides, 0 < s)
    (hk2 : ∀ k ∈ dkernel w dil, 2 ≤ k)
    (s : Tensor α) (hs : Spec.conv A "NOTSET" dil strides pads x w bias = some s) :
    ∃ m, convOp A { autoPad := "NOTSET", dilations := dil, strides := strides, pads := pads.map (fun (p : Nat) => (p : Int)) } x w bias = .ok m ∧
      Equiv m s := by
  have hl : (pads.map (fun (p : Nat) => (p : Int))).length = 2 * (x.shape.length - 2) := by
    rw [List.length_map, hpl]
  exact equiv_of_ok (conv_eq_spec A hA x w bias "NOTSET" dil strides pads _ _ hWb hpx hpw hrank hdl hsl hdp hsp hk2 pads
    (convPads_notset _ _ _ _ (isEmpty_of_length_pos hpl (by omega))).symm hpl
    (by rw [isEmpty_of_length_pos hl (by omega)]; rfl) hl (if_neg (fun h => h rfl)) s hs)

/-- selection of a whole axis -/
def noneSel (n : Nat) : AxisSel × Int × Int := (⟨0, n, 1, false⟩, 0, n)

theorem axisSel_none (i size : Nat) : axisSel i size none = .ok (noneSel size) :=
  axisSel_eq (o := none) trivial

end Gonnx.Proofs.Conv

namespace Gonnx.Proofs.Conv2
open Gonnx Gonnx.Proofs Gonnx.C05 Gonnx.Proofs.Conv
variable {α : Type} [Inhabited α]

theorem conv_autopad_partial (A : Arith α) (hA : ZeroLaws A) (x w : Tensor α) (bias : Option (Tensor α))
    (mode : String) (hm : mode = "SAME_UPPER" ∨ mode = "SAME_LOWER")
    (dil strides : List Nat)
    (hWb : ∀ b, bias = some b → b.WF)
    (hpx : Pos x.shape) (hpw : Pos w.shape)
    (hrank : x.shape.length = 3 ∨ x.shape.length = 4)
    (hdl : dil.length = x.shape.length - 2) (hsl : strides.length = x.shape.length - 2)
    (hdp : ∀ d ∈ dil, 0 < d) (hsp : ∀ s ∈ strides, 0 < s)
    (hk2 : ∀ k ∈ dkernel w dil, 2 ≤ k)
    (hneed : ∀ i, i < x.shape.length - 2 →
      dim (x.shape.drop 2) i ≤ ((dim (x.shape.drop 2) i + dim strides i - 1) / dim strides i - 1) * dim strides i + dim (dkernel w dil) i)
    (s : Tensor α) (hs : Spec.conv A mode dil strides [] x w bias = some s) :
    ∃ m, convOp A { autoPad := mode, dilations := dil, strides := strides, pads := [] } x w bias = .ok m ∧
      Equiv m s := by
  have hwl := ((spec_conv_some_iff A mode dil strides [] x w bias s _ _ _ rfl rfl rfl).1 hs).2.1
  have hdkl : (dkernel w dil).length = (x.shape.drop 2).length := by
    rw [dkernel, List.length_zipWith, List.length_drop, List.length_drop, hwl, hdl, Nat.min_self]
  have hpl := convPads_length mode (x.shape.drop 2) strides (dkernel w dil)
  rw [List.length_drop] at hpl
  exact equiv_of_ok (conv_eq_spec A hA x w bias mode dil strides [] [] _ hWb hpx hpw hrank hdl hsl hdp hsp hk2 _ rfl hpl rfl
    List.length_replicate
    (by
      rw [if_pos (same_ne hm).1]
      exact autopad_eq_spec_partial mode hm (x.shape.drop 2) strides (dkernel w dil) (by simpa using hsl) hdkl hsp
        (by simpa using hneed) (fun d hd => hpx d (List.mem_of_mem_drop hd)))
    s hs)

end Gonnx.Proofs.Conv2
