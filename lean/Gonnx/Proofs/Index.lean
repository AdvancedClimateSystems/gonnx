import Gonnx.Ops.Index
import Gonnx.Spec.Index
import Gonnx.Proofs.Broadcast
/-
Helper lemmas for C08: the Transpose, Gather, Concat and Expand models equal the ONNX index formulas
(Slice: Proofs/Slice.lean).
-/
namespace Gonnx.Proofs.Index
open Gonnx Gonnx.Spec Gonnx.Proofs
variable {α : Type} [Inhabited α]

/-! ### Transpose -/

/-- pigeonhole: `perm` has `r` entries and each of `0 … r-1` occurs in it, so nothing else does -/
theorem isPerm_mem {r : Nat} {perm : List Int} (h : isPerm r perm = true) {p : Int} (hp : p ∈ perm) :
    p ∈ (List.range r).map Nat.cast := by
  simp only [isPerm, decide_eq_true_eq, List.all_eq_true, List.mem_range, List.contains_iff_mem] at h
  apply Decidable.byContradiction
  intro hn
  -- otherwise `p` and `0 … r-1` are `r + 1` different entries of `perm`
  have hnd : (p :: (List.range r).map Nat.cast).Nodup :=
    List.nodup_cons.2 ⟨hn, List.nodup_range.map _ fun a b h h' => h (Int.ofNat.inj h')⟩
  have := hnd.length_le_of_subset (l₂ := perm) fun x hx => by
    rcases List.mem_cons.1 hx with rfl | hx
    · exact hp
    · obtain ⟨j, hj, rfl⟩ := List.mem_map.1 hx
      exact h.2 j (List.mem_range.1 hj)
  rw [List.length_cons, List.length_map, List.length_range, h.1] at this
  omega

/-- on a pattern of naturals, read as the integers ONNX is given, the kernel's permutation is the ONNX table -/
theorem permute_eq_spec (t : Tensor α) (l : List Nat) :
    permute t l = ofFn ((l.map Nat.cast).map fun (p : Int) => dim t.shape p.toNat) fun idx =>
      t.get ((List.range t.shape.length).map fun (j : Nat) =>
        idx.getD ((l.map Nat.cast).findIdx (fun (p : Int) => p = (j : Int))) 0) := by
  simp only [permute, List.map_map, List.findIdx_map, Function.comp_def, Int.toNat_natCast, Int.natCast_inj]

theorem transpose_eq_spec (t : Tensor α) (perm : List Int) (hp : isPerm t.shape.length perm = true) :
    ∃ s, Spec.transpose t perm = some s ∧ transposeOp t perm = .ok s := by
  -- a permutation pattern is a list of naturals
  obtain ⟨l, rfl⟩ : ∃ l : List Nat, perm = l.map Nat.cast := by
    refine ⟨perm.map Int.toNat, ?_⟩
    rw [List.map_map]
    refine (List.map_id' _).symm.trans (List.map_congr_left fun p h => ?_)
    obtain ⟨j, _, rfl⟩ := List.mem_map.1 (isPerm_mem hp h)
    rfl
  have hp' := hp
  simp only [isPerm, decide_eq_true_eq, Bool.decide_and, Bool.and_eq_true] at hp'
  refine ⟨_, if_pos hp, ?_⟩
  rw [transposeOp, gTranspose, if_neg (Decidable.not_not.2 hp'.1), if_pos hp'.2, map_toNat_cast, permute_eq_spec]

theorem transpose_wrong_length (t : Tensor α) (perm : List Int) (h : perm.length ≠ t.shape.length) :
    transposeOp t perm = .error .gorgonia ∧ Spec.transpose t perm = none := by
  constructor
  · unfold transposeOp gTranspose
    simp [h]
  · unfold Spec.transpose isPerm
    simp [h]

/-! ### Gather -/

/-- the model is the ONNX formula, and `axis` the only error -/
theorem gatherOp_eq (data : Tensor α) (indices : Tensor Int) (axis : Int) :
    gatherOp data indices axis = (Spec.gather data indices axis).elim (.error .axis) .ok := by
  -- the model writes `axis > r - 1` and `k ≤ n - 1` where the specification has `axis ≥ r` and `k < n`
  simp only [gatherOp, Spec.gather, gt_iff_lt, ge_iff_le, Int.sub_one_lt_iff, Int.le_sub_one_iff]
  by_cases ha : axis < -(data.shape.length : Int) ∨ (data.shape.length : Int) ≤ axis
  · rw [if_pos ha, if_pos ha]
    rfl
  · rw [if_neg ha, if_neg ha]
    cases indices.data.all _ <;> rfl

theorem gather_eq_spec (data : Tensor α) (indices : Tensor Int) (axis : Int) :
    (gatherOp data indices axis).toOption = Spec.gather data indices axis := by
  rw [gatherOp_eq]
  cases Spec.gather data indices axis <;> rfl

theorem gather_error (data : Tensor α) (indices : Tensor Int) (axis : Int)
    (h : Spec.gather data indices axis = none) : gatherOp data indices axis = .error .axis := by
  rw [gatherOp_eq, h]
  rfl

/-! ### Concat -/

/-- gorgonia's `locate` and ONNX's `find` walk the inputs alike: same input, same position in it -/
theorem locate_find (ax : Nat) (idx : List Nat) (l pre : List (Tensor α)) (p : Nat) :
    (match (pre ++ l)[(gConcat.go pre.length p (l.map fun t => dim t.shape ax)).1]? with
     | some t => t.get (idx.set ax (gConcat.go pre.length p (l.map fun t => dim t.shape ax)).2)
     | none => default) = Spec.concat.find ax idx p l := by
  induction l generalizing pre p with
  | nil => simp [gConcat.go, Spec.concat.find]
  | cons t rest ih =>
    rw [List.map_cons, gConcat.go, Spec.concat.find]
    by_cases hp : p < dim t.shape ax
    · rw [if_pos hp, if_pos hp, List.getElem?_append_right (Nat.le_refl _), Nat.sub_self]
      rfl
    · rw [if_neg hp, if_neg hp, ← ih (pre ++ [t]), List.append_assoc, List.length_append]
      rfl

/-- the condition gorgonia and ONNX both put on the inputs: the rank of `t0`, and its extents off axis `ax` -/
def agreeOff (ax : Nat) (t0 : Tensor α) (ts : List (Tensor α)) : Bool :=
  ts.all fun t => t.shape.length = t0.shape.length ∧
    (List.range t0.shape.length).all fun j => j = ax ∨ dim t.shape j = dim t0.shape j

/-- the inputs joined along `ax`, as ONNX tabulates them -/
def joined (ax : Nat) (t0 : Tensor α) (ts : List (Tensor α)) : Tensor α :=
  ofFn (t0.shape.set ax ((ts.map fun t => dim t.shape ax).foldl (· + ·) 0)) fun idx =>
    Spec.concat.find ax idx (idx.getD ax 0) ts

theorem spec_concat_cons (axis : Int) (t0 : Tensor α) (rest : List (Tensor α)) :
    Spec.concat axis (t0 :: rest) =
      if axis < -(t0.shape.length : Int) ∨ axis ≥ (t0.shape.length : Int) then none
      else if agreeOff (if axis < 0 then axis + (t0.shape.length : Int) else axis).toNat t0 (t0 :: rest) = true then
        some (joined (if axis < 0 then axis + (t0.shape.length : Int) else axis).toNat t0 (t0 :: rest))
      else none := rfl

omit [Inhabited α] in
theorem agreeOff_rank {ax : Nat} {t0 : Tensor α} {ts : List (Tensor α)} (h : agreeOff ax t0 ts = true) :
    (ts.all fun t => decide (t.shape.length = t0.shape.length)) = true := by
  unfold agreeOff at h
  rw [List.all_eq_true] at h ⊢
  intro t ht
  have := h t ht
  simp only [decide_eq_true_eq] at this ⊢
  exact this.1

/-- `gConcat` with the ONNX tabulation in place of its `locate` loop -/
theorem gConcat_cons (a : Int) (t0 : Tensor α) (rest : List (Tensor α)) :
    gConcat a (t0 :: rest) =
      if (!(t0 :: rest).all fun t => decide (t.shape.length = t0.shape.length)) = true then .error .gorgonia
      else if a = -1 then .error .panic
      else if a < 0 ∨ a ≥ t0.shape.length then .error .gorgonia
      else if (!agreeOff a.toNat t0 (t0 :: rest)) = true then .error .gorgonia
      else .ok (joined a.toNat t0 (t0 :: rest)) := by
  unfold gConcat agreeOff joined
  simp only
  congr 6
  funext idx
  exact locate_find a.toNat idx (t0 :: rest) [] (idx.getD a.toNat 0)

/-- among pieces of extent `b` along `ax`, position `t·b + i` lies in piece `t` at offset `i` -/
theorem find_same (ax b : Nat) (idx : List Nat) : ∀ (ts : List (Tensor α)) (t i : Nat),
    (∀ x ∈ ts, dim x.shape ax = b) → t < ts.length → i < b →
    Spec.concat.find ax idx (t * b + i) ts = (ts.getD t ⟨[], []⟩).get (idx.set ax i) := by
  intro ts
  induction ts with
  | nil => exact fun t i _ ht => absurd ht (Nat.not_lt_zero t)
  | cons x rest ih =>
    intro t i hb ht hi
    rw [Spec.concat.find, hb x List.mem_cons_self]
    cases t with
    | zero => rw [Nat.zero_mul, Nat.zero_add, if_pos hi]; rfl
    | succ t =>
      rw [Nat.succ_mul, if_neg (by omega), Nat.add_right_comm, Nat.add_sub_cancel,
        ih t i (fun y hy => hb y (List.mem_cons_of_mem _ hy)) (Nat.lt_of_succ_lt_succ ht) hi]
      rfl

/-- pieces of one shape `b :: s` along axis 0: gorgonia accepts them, and `find_same` reads the result -/
theorem gConcat0_same (ts : List (Tensor α)) (b : Nat) (s : List Nat) (hne : ts ≠ [])
    (hsh : ∀ t ∈ ts, t.shape = b :: s) :
    gConcat 0 ts = .ok (ofFn (ts.length * b :: s) fun idx => Spec.concat.find 0 idx (idx.getD 0 0) ts) := by
  cases ts with
  | nil => exact absurd rfl hne
  | cons t0 rest =>
    have h0 : t0.shape = b :: s := hsh t0 List.mem_cons_self
    have hag : agreeOff 0 t0 (t0 :: rest) = true :=
      List.all_eq_true.2 fun t ht => by simp [hsh t ht, h0]
    rw [gConcat_cons, agreeOff_rank hag, if_neg (by decide), if_neg (by decide),
      if_neg (by rw [h0]; simp), show (0 : Int).toNat = 0 from rfl, hag, if_neg (by decide), joined,
      foldl_add_const _ b _ (fun t ht => by rw [hsh t ht]; rfl), h0, Nat.zero_add]
    rfl

/-- on two or more inputs the model answers exactly when ONNX does, and with the same tensor -/
theorem concatOp_toOption (axis : Int) (ts : List (Tensor α)) (hn : 2 ≤ ts.length) :
    (concatOp axis ts).toOption = Spec.concat axis ts := by
  match ts, hn with
  | t0 :: t1 :: rest, _ =>
    have hout := offset_out_iff axis t0.shape.length (Int.natCast_nonneg _)
    rw [spec_concat_cons]
    simp only [concatOp, Int.add_comm (t0.shape.length : Int) axis]
    rw [gConcat_cons]
    have herr (e : Err) : (Except.error e : Res (Tensor α)).toOption = none := rfl
    simp only [apply_ite Except.toOption, herr]
    generalize (if axis < 0 then axis + (t0.shape.length : Int) else axis) = a at hout ⊢
    by_cases ha : axis < -(t0.shape.length : Int) ∨ axis ≥ (t0.shape.length : Int)
    · -- gorgonia refuses at its second or third guard
      rw [if_pos ha]
      by_cases h1 : a = -1
      · rw [if_pos h1, ite_self]
      · rw [if_neg h1, if_pos (hout.2 ha), ite_self]
    · have h1 : ¬ a = -1 := fun h => ha (hout.1 (.inl (by omega)))
      rw [if_neg ha, if_neg h1, if_neg (fun h => ha (hout.1 h))]
      cases h : agreeOff a.toNat t0 (t0 :: t1 :: rest)
      · simp only [Bool.not_false, if_true, ite_self, Bool.false_eq_true, if_false]
      · rw [agreeOff_rank h]
        rfl

/-- what ONNX answers is the tabulation `joined`, along some axis -/
theorem spec_concat_some {axis : Int} {t0 : Tensor α} {rest : List (Tensor α)} {s : Tensor α}
    (hs : Spec.concat axis (t0 :: rest) = some s) : ∃ ax, s = joined ax t0 (t0 :: rest) := by
  rw [spec_concat_cons] at hs
  exact ⟨_, ((Option.ite_some_none_eq_some.1 (Option.ite_none_left_eq_some.1 hs).2).2).symm⟩

theorem concat_eq_spec (axis : Int) (ts : List (Tensor α)) (hn : 2 ≤ ts.length)
    (s : Tensor α) (hs : Spec.concat axis ts = some s) :
    ∃ m, concatOp axis ts = .ok m ∧ Equiv m s := by
  have h := concatOp_toOption axis ts hn
  rw [hs] at h
  cases hm : concatOp axis ts with
  | error e => rw [hm] at h; cases h
  | ok m =>
    rw [hm] at h
    cases h
    match ts, hn with
    | t0 :: rest, _ =>
      obtain ⟨ax, rfl⟩ := spec_concat_some hs
      exact ⟨_, rfl, Equiv.refl (ofFn_WF _ _)⟩

theorem concat_refuses (axis : Int) (ts : List (Tensor α)) (hn : 2 ≤ ts.length)
    (hs : Spec.concat axis ts = none) : ∀ m, concatOp axis ts ≠ .ok m := by
  intro m hm
  have h := concatOp_toOption axis ts hn
  rw [hs, hm] at h
  cases h

/-! ### Expand -/

theorem getD_map_ofNat (tg : List Nat) (k : Nat) :
    (tg.map fun (d : Nat) => (d : Int)).getD k 0 = (dim tg k : Int) := by
  simp only [dim, List.getD_eq_getElem?_getD, List.getElem?_map]
  cases tg[k]? <;> rfl

/-- under compatibility the Expand loop is the one-operand broadcast loop -/
theorem expandLoop_eq_repA (s tg : List Nat) (k : Nat) (X : Tensor α) (hW : X.WF)
    (hX : ∀ j, j < k → dim X.shape j = dim s j)
    (hc : ∀ j, j < k → dim s j = dim tg j ∨ dim s j = 1 ∨ dim tg j = 1) :
    expandLoop (tg.map fun (d : Nat) => (d : Int)) k X = repA s tg k X := by
  induction k generalizing X with
  | zero => rfl
  | succ k ih =>
    have hk := hX k (Nat.lt_succ_self k)
    have hck := hc k (Nat.lt_succ_self k)
    have hc' (j : Nat) (hj : j < k) := hc j (Nat.lt_succ_of_lt hj)
    have hX' (j : Nat) (hj : j < k) := hX j (Nat.lt_succ_of_lt hj)
    rw [expandLoop, repA, getD_map_ofNat, Int.toNat_natCast]
    by_cases h : dim s k = 1 ∧ dim tg k ≠ 1
    · -- both repeat
      rw [if_pos h, if_pos (by omega)]
      exact ih _ (ofFn_WF _ _) (fun j hj => by rw [dim_repeatAxis_shape, if_neg (by omega), hX' j hj]) hc'
    · -- the broadcast loop goes on with `X`; so does Expand, unless the extents differ: then the requested one is 1
      rw [if_neg h, ← ih X hW hX' hc']
      split
      · rw [show dim tg k = 1 by omega, repeatAxis_one X k hW]
      · rfl

/-- Expand to a compatible target of at least the input's rank is the broadcast helpers' `stretch`
(whatever the extents: positivity only matters for the shape `stretch` has) -/
theorem expandOp_eq_stretch (t : Tensor α) (target : List Nat) (hW : t.WF)
    (hlen : t.shape.length ≤ target.length) (hc : Compatible t.shape target = true) :
    expandOp t (target.map fun (d : Nat) => (d : Int)) = .ok (stretch t target) := by
  have hc' := (compatible_iff _ _).1 hc
  rw [Nat.max_eq_right hlen, padShape_self] at hc'
  unfold expandOp stretch stretchLead
  rw [List.length_map, ite_addExtraDims, Nat.max_eq_right hlen, padShape_self,
    ← expandLoop_eq_repA (padShape target.length t.shape) target target.length _
      (addExtraDims_WF hW _) (fun _ _ => rfl) hc']

theorem expand_partial (t : Tensor α) (target : List Nat) (hpos : Pos t.shape) (htpos : Pos target)
    (hW : t.WF) (hlen : t.shape.length ≤ target.length) (s : Tensor α)
    (hs : Spec.expand t target = some s) :
    ∃ m, expandOp t (target.map fun (d : Nat) => (d : Int)) = .ok m ∧ Equiv m s := by
  unfold Spec.expand at hs
  split at hs
  · next hc =>
    cases hs
    exact ⟨_, expandOp_eq_stretch t target hW hlen hc,
      (stretch_Is_of_compatible t hpos htpos hc).equiv_ofFn
        (stretch_WF t target hW)⟩
  · cases hs

end Gonnx.Proofs.Index
