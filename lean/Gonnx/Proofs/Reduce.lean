import Gonnx.Ops.Reduce
import Gonnx.Spec.Reduce
import Gonnx.Proofs.Binary
import Gonnx.Proofs.MapM
/-
C09: ArgMax, ReduceMax/Min, Softmax/LogSoftmax. Each operator wrapper has one evaluation lemma under
`Spec.normAxis … = some ax` (`softmaxOp_eq`, `argmaxOp_eq`, `reduceOp_eq`). Shapes with reduced axes go
through two masks over positions: `keepF p` drops the axes where `p` holds, `maskWith 1 p` sets them to 1;
the indices of the one shape, cut down by `keepF p`, are those of the other in the same order
(`map_keepF_allIdx`), so the two label the same data (`keepdims_equiv`).
-/
namespace Gonnx.C09
variable {α : Type}

/-- a total preorder given by a Boolean `le` -/
structure TotalLe (le : α → α → Bool) : Prop where
  total : ∀ a b, le a b = true ∨ le b a = true
  trans : ∀ a b c, le a b = true → le b c = true → le a c = true

theorem TotalLe.refl {le : α → α → Bool} (h : TotalLe le) (a : α) : le a a = true :=
  (h.total a a).elim id id

theorem TotalLe.of_false {le : α → α → Bool} (h : TotalLe le) {a b : α} (hab : le a b = false) :
    le b a = true :=
  (h.total a b).resolve_left (by rw [hab]; exact Bool.false_ne_true)

end Gonnx.C09

namespace Gonnx.Proofs.Reduce
open Gonnx Gonnx.C09
variable {α : Type} [Inhabited α]

/-- a valid axis: its range, and its natural-number spelling as the operators compute it (Softmax writes
`a + r`, ArgMax and ReduceMax/Min `r + a`: `normAxis_cast'`) -/
theorem normAxis_some {r : Nat} {a : Int} {ax : Nat} (h : Spec.normAxis r a = some ax) :
    (-(r : Int) ≤ a ∧ a < r) ∧ (if a < 0 then a + r else a) = (ax : Int) ∧ ax < r := by
  unfold Spec.normAxis at h
  split at h
  · rename_i hr
    cases h
    exact ⟨hr, natAxis_cast hr⟩
  · cases h

theorem normAxis_lt {r : Nat} {a : Int} {ax : Nat} (h : Spec.normAxis r a = some ax) : ax < r :=
  (normAxis_some h).2.2

theorem normAxis_cast' {r : Nat} {a : Int} {ax : Nat} (h : Spec.normAxis r a = some ax) :
    (if a < 0 then (r : Int) + a else a) = (ax : Int) := by
  rw [Int.add_comm]
  exact (normAxis_some h).2.1

theorem normAxis_none {r : Nat} {a : Int} (h : Spec.normAxis r a = none) :
    a < -(r : Int) ∨ a ≥ r := by
  unfold Spec.normAxis at h
  split at h
  · cases h
  · omega

theorem softmax_axis_error (f : α → List α → List α) (t : Tensor α) (axis : Int)
    (h : Spec.normAxis t.shape.length axis = none) : softmaxOp f t axis = .error .axis := by
  have := normAxis_none h
  unfold softmaxOp
  simp only
  rw [if_pos this]

theorem softmaxOp_eq (f : α → List α → List α) (t : Tensor α) (axis : Int) (ax : Nat)
    (hax : Spec.normAxis t.shape.length axis = some ax) : softmaxOp f t axis = .ok (gLanes f t ax) := by
  obtain ⟨⟨h1, h2⟩, h3, _⟩ := normAxis_some hax
  unfold softmaxOp
  simp only
  rw [if_neg (by omega), h3, Int.toNat_natCast]

theorem softmax_lane (f : α → List α → List α) (t : Tensor α) (axis : Int) (ax : Nat)
    (hax : Spec.normAxis t.shape.length axis = some ax) :
    ∃ out, softmaxOp f t axis = .ok out ∧ out.shape = t.shape ∧ out.WF ∧
      ∀ idx, InRange idx t.shape →
        out.get idx =
          (f (if ax + 1 = t.shape.length then t.data.headD default
              else t.get (idx.set ax 0))
             ((List.range (dim t.shape ax)).map fun k => t.get (idx.set ax k))).getD (idx.getD ax 0) default := by
  refine ⟨_, softmaxOp_eq f t axis ax hax, rfl, ofFn_WF _ _, fun idx hidx => ?_⟩
  -- the lane is not empty, so its head is its element 0
  have hpos : dim t.shape ax ≠ 0 :=
    Nat.ne_of_gt (Nat.zero_lt_of_lt (((InRange_iff idx t.shape).1 hidx).2 ax (normAxis_lt hax)))
  obtain ⟨n, hn⟩ := Nat.exists_eq_succ_of_ne_zero hpos
  have hhead : ((List.range (dim t.shape ax)).map fun k => t.get (idx.set ax k)).headD default =
      t.get (idx.set ax 0) := by
    rw [hn, List.range_succ_eq_map]; rfl
  unfold gLanes
  simp only
  rw [get_ofFn _ _ _ hidx, hhead]

/-- the tensor `gArgmax` computes along axis `ax` -/
def argmaxOut (lt : α → α → Bool) (t : Tensor α) (ax : Nat) : Tensor Int :=
  ofFn (t.shape.eraseIdx ax) fun idx =>
    (argmaxList lt ((List.range (dim t.shape ax)).map fun k => t.get (laneIdx ax idx k)) : Nat)

theorem gArgmax_ok (lt : α → α → Bool) (t : Tensor α) (ax : Nat) (hax : ax < t.shape.length) :
    gArgmax lt t (ax : Int) = .ok (argmaxOut lt t ax) := by
  unfold gArgmax
  rw [if_neg (by omega), if_neg (by omega)]
  simp [argmaxOut]

theorem gArgmax_shape (lt : α → α → Bool) (t : Tensor α) (a : Int) (r : Tensor Int)
    (h : gArgmax lt t a = .ok r) : r.shape = t.shape.eraseIdx a.toNat := by
  unfold gArgmax at h
  split at h
  · cases h
  · split at h
    · cases h
    · cases h; rfl

theorem argmaxOp_eq (lt : α → α → Bool) (t : Tensor α) (axis : Int) (keep : Bool) (ax : Nat)
    (hax : Spec.normAxis t.shape.length axis = some ax) :
    argmaxOp lt t axis keep =
      if keep then .ok (⟨t.shape.set ax 1, (argmaxOut lt t ax).data⟩, none)
      else if t.shape.eraseIdx ax = [] then .error .other else .ok (argmaxOut lt t ax, none) := by
  unfold argmaxOp
  simp only [normAxis_cast' hax, gArgmax_ok lt t ax (normAxis_lt hax), Int.toNat_natCast]
  rfl

theorem argmax_rank1_nokeep (lt : α → α → Bool) (t : Tensor α) (n : Nat) (h : t.shape = [n]) :
    argmaxOp lt t 0 false = .error .other := by
  rw [argmaxOp_eq lt t 0 false 0 (by rw [h]; rfl), h]
  rfl

/-- `m` is the first maximal position among `e 0 … e (n-1)` -/
def FirstMax (le : α → α → Bool) (e : Nat → α) (n m : Nat) : Prop :=
  m < n ∧ (∀ j, j < n → le (e j) (e m) = true) ∧ (∀ j, j < m → le (e m) (e j) = false)

omit [Inhabited α] in
theorem FirstMax.succ_le {le : α → α → Bool} {e : Nat → α} {i bi : Nat}
    (h : FirstMax le e i bi) (hc : le (e i) (e bi) = true) : FirstMax le e (i + 1) bi := by
  refine ⟨Nat.lt_succ_of_lt h.1, fun j hj => ?_, h.2.2⟩
  rcases Nat.lt_succ_iff_lt_or_eq.1 hj with hj | rfl
  · exact h.2.1 j hj
  · exact hc

omit [Inhabited α] in
theorem FirstMax.succ_lt {le : α → α → Bool} (hle : TotalLe le) {e : Nat → α} {i bi : Nat}
    (h : FirstMax le e i bi) (hc : le (e i) (e bi) = false) : FirstMax le e (i + 1) i := by
  refine ⟨Nat.lt_succ_self i, fun j hj => ?_, fun j hj => ?_⟩
  · rcases Nat.lt_succ_iff_lt_or_eq.1 hj with hj | rfl
    · exact hle.trans _ _ _ (h.2.1 j hj) (hle.of_false hc)
    · exact hle.refl _
  · -- `e i ≤ e j ≤ e bi` would contradict `hc`
    cases hji : le (e i) (e j) with
    | false => rfl
    | true => rw [hle.trans _ _ _ hji (h.2.1 j hj)] at hc; cases hc

omit [Inhabited α] in
theorem go_firstMax (le : α → α → Bool) (hle : TotalLe le) (e : Nat → α) (k : Nat) :
    ∀ bi i, FirstMax le e i bi →
      FirstMax le e (i + k) (argmaxList.go (fun a b => !le b a) (e bi) bi i ((List.range' i k).map e)) := by
  induction k with
  | zero => intro bi i h; exact h
  | succ k ih =>
    intro bi i h
    rw [List.range'_succ, List.map_cons, argmaxList.go, show i + (k + 1) = i + 1 + k by omega]
    cases hc : le (e i) (e bi) with
    | true => exact ih _ _ (h.succ_le hc)
    | false => exact ih _ _ (h.succ_lt hle hc)

omit [Inhabited α] in
theorem argmaxList_firstMax (le : α → α → Bool) (hle : TotalLe le) (e : Nat → α) (n : Nat) (hn : 0 < n) :
    FirstMax le e n (argmaxList (fun a b => !le b a) ((List.range n).map e)) := by
  obtain ⟨k, rfl⟩ : ∃ k, n = k + 1 := ⟨n - 1, by omega⟩
  rw [List.range_eq_range', List.range'_succ, List.map_cons, Nat.add_comm k 1]
  exact go_firstMax le hle e k 0 1
    ⟨Nat.zero_lt_one, fun j hj => by rw [Nat.lt_one_iff.1 hj]; exact hle.refl _, fun j hj => absurd hj (Nat.not_lt_zero j)⟩

omit [Inhabited α] in
/-- the model's `argmaxList` agrees with the spec's "first k such that every element is ≤ element k";
on an empty lane both are 0 -/
theorem argmaxList_eq_find (le : α → α → Bool) (hle : TotalLe le) (e : Nat → α) (n : Nat) :
    ((List.range n).find? fun k => (List.range n).all fun j => le (e j) (e k)).getD 0 =
      argmaxList (fun a b => !le b a) ((List.range n).map e) := by
  cases n with
  | zero => rfl
  | succ n =>
    obtain ⟨h1, h2, h3⟩ := argmaxList_firstMax le hle e (n + 1) (Nat.succ_pos n)
    rw [List.find?_range_eq_some.2 ⟨?_, List.mem_range.2 h1, fun j hj => ?_⟩]
    · rfl
    · simpa using h2
    · rw [Bool.not_eq_true', List.all_eq_false]
      exact ⟨_, List.mem_range.2 h1, by rw [h3 j hj]; exact Bool.false_ne_true⟩

/-- entries of `l` at the positions (counted from `k`) where `p` is false -/
def keepF {β : Type} (p : Nat → Bool) (k : Nat) (l : List β) : List β :=
  ((l.zipIdx k).filter fun x => !p x.2).map (·.1)

/-- `l` with the entries at the positions (counted from `k`) where `p` holds replaced by `c` -/
def maskWith (c : Nat) (p : Nat → Bool) (k : Nat) (l : List Nat) : List Nat :=
  (l.zipIdx k).map fun x => if p x.2 then c else x.1

/-- `l` with the entry at each position `j` (counted from `k`) where `p` holds replaced by `v j`: `maskWith c` is
`putAt fun _ => c` -/
def putAt (v : Nat → Nat) (p : Nat → Bool) (k : Nat) (l : List Nat) : List Nat :=
  (l.zipIdx k).map fun x => if p x.2 then v x.2 else x.1

theorem keepF_cons {β : Type} (p : Nat → Bool) (k : Nat) (x : β) (l : List β) :
    keepF p k (x :: l) = if p k then keepF p (k+1) l else x :: keepF p (k+1) l := by
  unfold keepF
  rw [List.zipIdx_cons, List.filter_cons]
  cases p k <;> simp

theorem putAt_cons (v : Nat → Nat) (p : Nat → Bool) (k x : Nat) (l : List Nat) :
    putAt v p k (x :: l) = (if p k then v k else x) :: putAt v p (k+1) l := by
  unfold putAt
  rw [List.zipIdx_cons, List.map_cons]

theorem length_putAt (v : Nat → Nat) (p : Nat → Bool) (k : Nat) (l : List Nat) : (putAt v p k l).length = l.length := by
  simp [putAt]

theorem dim_putAt (v : Nat → Nat) (p : Nat → Bool) (l : List Nat) {j : Nat} (hj : j < l.length) :
    dim (putAt v p 0 l) j = if p j then v j else dim l j := by
  simp [putAt, dim_eq, hj]

theorem maskWith_nil (c : Nat) (p : Nat → Bool) (k : Nat) : maskWith c p k [] = [] := rfl

theorem maskWith_cons (c : Nat) (p : Nat → Bool) (k : Nat) (x : Nat) (l : List Nat) :
    maskWith c p k (x :: l) = (if p k then c else x) :: maskWith c p (k+1) l :=
  putAt_cons (fun _ => c) p k x l

theorem length_maskWith (c : Nat) (p : Nat → Bool) (k : Nat) (l : List Nat) :
    (maskWith c p k l).length = l.length :=
  length_putAt (fun _ => c) p k l

/-- overwriting entries that already hold what is written -/
theorem putAt_eq_self (v : Nat → Nat) (p : Nat → Bool) (l : List Nat)
    (h : ∀ j, j < l.length → p j = true → dim l j = v j) : putAt v p 0 l = l := by
  refine (ext_dim (length_putAt ..).symm fun j hj => ?_).symm
  rw [dim_putAt _ _ _ hj]
  split
  · next hp => exact h j hj hp
  · rfl

theorem maskWith_eq_self (c : Nat) (p : Nat → Bool) (l : List Nat)
    (h : ∀ j, j < l.length → p j = true → dim l j = c) : maskWith c p 0 l = l :=
  putAt_eq_self (fun _ => c) p l h

/-- overwriting the `p`-positions leaves the kept entries alone -/
theorem keepF_putAt (v : Nat → Nat) (p : Nat → Bool) (k : Nat) (l : List Nat) :
    keepF p k (putAt v p k l) = keepF p k l := by
  induction l generalizing k with
  | nil => rfl
  | cons x l ih =>
    rw [putAt_cons, keepF_cons, keepF_cons, ih]
    cases p k <;> rfl

theorem dim_maskWith (c : Nat) (p : Nat → Bool) (l : List Nat) {j : Nat} (hj : j < l.length) :
    dim (maskWith c p 0 l) j = if p j then c else dim l j :=
  dim_putAt (fun _ => c) p l hj

/-- the indices of the shape with the `p`-axes set to 1, cut down to their kept entries, are the indices of the
kept shape in the same order: a table over either shape is a table over the other, with the same buffer -/
theorem map_keepF_allIdx (p : Nat → Bool) (k : Nat) (sh : List Nat) :
    (allIdx (maskWith 1 p k sh)).map (keepF p k) = allIdx (keepF p k sh) := by
  induction sh generalizing k with
  | nil => rfl
  | cons n sh ih =>
    rw [maskWith_cons, keepF_cons, allIdx, List.map_flatMap]
    simp only [List.map_map, Function.comp_def, keepF_cons]
    cases p k with
    | true => simp [ih]
    | false => simp [← ih, allIdx, Function.comp_def]

theorem prod_mask_one (p : Nat → Bool) (k : Nat) (s : List Nat) :
    prod (maskWith 1 p k s) = prod (keepF p k s) := by
  rw [← allIdx_length, ← allIdx_length, ← map_keepF_allIdx, List.length_map]

theorem exists_keepF {p : Nat → Bool} {sh idx : List Nat} (h : InRange idx (keepF p 0 sh)) :
    ∃ idx', InRange idx' (maskWith 1 p 0 sh) ∧ keepF p 0 idx' = idx := by
  rw [← mem_allIdx, ← map_keepF_allIdx, List.mem_map] at h
  simpa only [mem_allIdx] using h

/-- a table over `s'` read under a shape `s` whose indices `φ` maps, in order, to those of `s'` -/
theorem relabel_eq {β : Type} {s s' : List Nat} {φ : List Nat → List Nat} (h : (allIdx s).map φ = allIdx s')
    (F : List Nat → β) : (⟨s, (ofFn s' F).data⟩ : Tensor β) = ofFn s fun idx => F (φ idx) := by
  rw [ofFn, ofFn, ← h, List.map_map]
  rfl

/-- a dense tensor over the kept axes, relabelled with the reduced axes as unit axes, has at `idx` the
element it had at the kept entries of `idx` -/
theorem keepdims_equiv {β : Type} [Inhabited β] (p : Nat → Bool) (sh : List Nat) (F G : List Nat → β)
    (h : ∀ idx, InRange idx (maskWith 1 p 0 sh) → F (keepF p 0 idx) = G idx) :
    Equiv ⟨maskWith 1 p 0 sh, (ofFn (keepF p 0 sh) F).data⟩ (ofFn (maskWith 1 p 0 sh) G) := by
  rw [relabel_eq (map_keepF_allIdx p 0 sh)]
  exact equiv_ofFn h

/-- the same for one axis, where the masks are `set` and `eraseIdx` -/
theorem map_eraseIdx_allIdx (sh : List Nat) (ax : Nat) :
    (allIdx (sh.set ax 1)).map (·.eraseIdx ax) = allIdx (sh.eraseIdx ax) := by
  induction sh generalizing ax with
  | nil => rfl
  | cons n sh ih =>
    cases ax with
    | zero => simp [allIdx, Function.comp_def]
    | succ ax => simp [allIdx, ← ih ax, Function.comp_def, List.map_flatMap]

theorem keepdims_equiv_axis {β : Type} [Inhabited β] (sh : List Nat) (ax : Nat) (F G : List Nat → β)
    (h : ∀ idx, InRange idx (sh.set ax 1) → F (idx.eraseIdx ax) = G idx) :
    Equiv ⟨sh.set ax 1, (ofFn (sh.eraseIdx ax) F).data⟩ (ofFn (sh.set ax 1) G) := by
  rw [relabel_eq (map_eraseIdx_allIdx sh ax)]
  exact equiv_ofFn h

theorem laneIdx_eraseIdx (idx : List Nat) (ax k : Nat) (h : ax < idx.length) :
    laneIdx ax (idx.eraseIdx ax) k = idx.set ax k := by
  have hl : (idx.take ax).length = ax := List.length_take_of_le (Nat.le_of_lt h)
  rw [laneIdx, List.eraseIdx_eq_take_drop_succ, List.take_left' hl, List.drop_left' hl,
    List.set_eq_take_append_cons_drop, if_pos h, List.append_assoc]
  rfl

theorem foldl_set_one (l : List Nat) (s : List Nat) :
    l.foldl (fun s a => s.set a 1) s = maskWith 1 l.contains 0 s := by
  induction l generalizing s with
  | nil => exact (maskWith_eq_self 1 ([] : List Nat).contains s fun _ _ h => nomatch h).symm
  | cons a l ih =>
    rw [List.foldl_cons, ih]
    refine ext_dim (by simp only [length_maskWith, List.length_set]) fun j hj => ?_
    rw [length_maskWith, List.length_set] at hj
    rw [dim_maskWith _ _ _ (by rwa [List.length_set]), dim_maskWith _ _ _ hj, dim_set, List.contains_cons]
    by_cases e : j = a
    · subst e; simp [hj]
    · simp [e]

/-- ArgMax is the spec for every valid axis spelling and keepdims, except the rank-1 / keepdims = 0
corner; extents 0 included -/
theorem argmax_eq_spec (le : α → α → Bool) (hle : TotalLe le) (t : Tensor α) (axis : Int) (keep : Bool)
    (ax : Nat) (hax : Spec.normAxis t.shape.length axis = some ax)
    (hcorner : ¬ (keep = false ∧ t.shape.length = 1))
    (s : Tensor Int) (hs : Spec.argmax le t axis keep = some s) :
    ∃ m mu, argmaxOp (fun a b => !le b a) t axis keep = .ok (m, mu) ∧ Equiv m s := by
  have h4 : ax < t.shape.length := normAxis_lt hax
  unfold Spec.argmax at hs
  rw [hax] at hs
  cases hs
  rw [argmaxOp_eq _ t axis keep ax hax]
  cases keep with
  | true =>
    refine ⟨_, _, rfl, keepdims_equiv_axis _ _ _ _ fun idx hidx => ?_⟩
    have hlen : ax < idx.length := by rw [InRange_length hidx, List.length_set]; exact h4
    simp only [argmaxList_eq_find le hle, laneIdx_eraseIdx _ _ _ hlen, if_true]
  | false =>
    have hne : t.shape.eraseIdx ax ≠ [] := fun hE => hcorner ⟨rfl, by
      have := congrArg List.length hE
      rw [List.length_eraseIdx, if_pos h4] at this
      simp only [List.length_nil] at this
      omega⟩
    refine ⟨_, _, if_neg hne, equiv_ofFn fun idx _ => ?_⟩
    simp only [argmaxList_eq_find le hle, laneIdx, Bool.false_eq_true, if_false]

-- the proof does not use `hpos`: on an axis of extent 0 model and spec both give index 0
set_option linter.unusedVariables false in
theorem argmax_partial (le : α → α → Bool) (hle : TotalLe le) (t : Tensor α) (axis : Int) (keep : Bool)
    (hpos : Pos t.shape) (ax : Nat) (hax : Spec.normAxis t.shape.length axis = some ax)
    (hcorner : ¬ (keep = false ∧ t.shape.length = 1))
    (s : Tensor Int) (hs : Spec.argmax le t axis keep = some s) :
    ∃ m mu, argmaxOp (fun a b => !le b a) t axis keep = .ok (m, mu) ∧ Equiv m s :=
  argmax_eq_spec le hle t axis keep ax hax hcorner s hs

theorem reducePositions_cons (shape : List Nat) (a : Nat) (axes : List Nat) :
    reducePositions shape (a :: axes) =
      (List.range (dim shape a)).flatMap fun k => (reducePositions shape axes).map fun l => (a, k) :: l := rfl

/-- every enumerated position list stays in range on the listed axes -/
theorem lookup_reducePositions (shape axes : List Nat) (pos : List (Nat × Nat))
    (h : pos ∈ reducePositions shape axes) (b : Nat) (hb : b ∈ axes) :
    (pos.lookup b).getD 0 < dim shape b := by
  induction axes generalizing pos with
  | nil => cases hb
  | cons a axes ih =>
    rw [reducePositions_cons] at h
    obtain ⟨k, hk, l, hl, rfl⟩ : ∃ k, k < dim shape a ∧ ∃ l, l ∈ reducePositions shape axes ∧ (a, k) :: l = pos := by
      simpa only [List.mem_flatMap, List.mem_range, List.mem_map] using h
    rw [List.lookup_cons]
    by_cases hba : b = a
    · rw [hba, beq_self_eq_true]; exact hk
    · rw [(beq_eq_false_iff_ne.2 hba : (b == a) = false)]
      exact ih l hl ((List.mem_cons.1 hb).resolve_left hba)

/-- every in-range choice of positions on the listed axes is enumerated -/
theorem exists_reducePositions (shape axes : List Nat) (g : Nat → Nat) (h : ∀ a ∈ axes, g a < dim shape a) :
    ∃ pos ∈ reducePositions shape axes, ∀ a ∈ axes, (pos.lookup a).getD 0 = g a := by
  induction axes with
  | nil => exact ⟨[], List.mem_singleton.2 rfl, fun _ h => nomatch h⟩
  | cons a axes ih =>
    obtain ⟨l, hl, hg⟩ := ih fun b hb => h b (List.mem_cons_of_mem _ hb)
    refine ⟨(a, g a) :: l, ?_, fun b hb => ?_⟩
    · rw [reducePositions_cons, List.mem_flatMap]
      exact ⟨g a, List.mem_range.2 (h a List.mem_cons_self), List.mem_map.2 ⟨l, hl, rfl⟩⟩
    · rw [List.lookup_cons]
      by_cases hba : b = a
      · rw [hba, beq_self_eq_true]; rfl
      · rw [(beq_eq_false_iff_ne.2 hba : (b == a) = false)]
        exact hg b ((List.mem_cons.1 hb).resolve_left hba)

theorem go_keepF (axes : List Nat) (pos : List (Nat × Nat)) (s : List Nat) (k : Nat) :
    fullIdx.go axes pos k s.length (keepF axes.contains k s) =
      putAt (fun j => (pos.lookup j).getD 0) axes.contains k s := by
  induction s generalizing k with
  | nil => rfl
  | cons x s ih =>
    rw [List.length_cons, fullIdx.go, keepF_cons, putAt_cons, ← ih]
    cases axes.contains k <;> rfl

/-- rebuilding a full index from the kept entries of `s` overwrites `s` on the reduced axes -/
theorem fullIdx_keepF (axes : List Nat) (pos : List (Nat × Nat)) {r : Nat} (s : List Nat) (h : s.length = r) :
    fullIdx r axes (keepF axes.contains 0 s) pos = putAt (fun j => (pos.lookup j).getD 0) axes.contains 0 s :=
  h ▸ go_keepF axes pos s 0

/-- an index of the shape with the `p`-axes set to 1, position by position -/
theorem inRange_mask_one {p : Nat → Bool} {sh idx : List Nat} (h : InRange idx (maskWith 1 p 0 sh)) :
    idx.length = sh.length ∧ ∀ j, j < sh.length → dim idx j < if p j then 1 else dim sh j := by
  rw [InRange_dim, length_maskWith] at h
  exact ⟨h.1, fun j hj => dim_maskWith 1 p sh hj ▸ h.2 j hj⟩

/-- how the spec's keepdims filter (reduced positions zeroed) selects the same sources as the no-keepdims filter
at the projected index: the zero-filled index is rebuilt from the kept entries -/
theorem keepF_eq_iff_mask {axes sh idx s : List Nat} (h : InRange idx (maskWith 1 axes.contains 0 sh))
    (hs : s.length = sh.length) :
    keepF axes.contains 0 s = keepF axes.contains 0 idx ↔ maskWith 0 axes.contains 0 s = idx := by
  obtain ⟨hl, hK⟩ := inRange_mask_one h
  have h0 : maskWith 0 axes.contains 0 idx = idx := maskWith_eq_self 0 _ idx fun j hj hp => by
    have := hK j (hl ▸ hj)
    rw [if_pos hp] at this
    exact Nat.lt_one_iff.1 this
  -- with no positions given `fullIdx` fills in zeros
  have hz : ∀ l, l.length = sh.length →
      maskWith 0 axes.contains 0 l = fullIdx sh.length axes (keepF axes.contains 0 l) [] :=
    fun l h => (fullIdx_keepF axes [] l h).symm
  constructor
  · intro e
    rw [hz s hs, e, ← hz idx hl, h0]
  · intro e
    rw [← e]
    exact (keepF_putAt (fun _ => 0) ..).symm

/-- the model's enumeration `fullIdx … pos`, `pos ∈ reducePositions`, runs over exactly the source indices that
agree with `idx` on the kept axes -/
theorem reduce_sources (shape axes idx : List Nat) (hlt : ∀ a ∈ axes, a < shape.length)
    (hidx : InRange idx (maskWith 1 axes.contains 0 shape)) (s : List Nat) :
    (∃ pos, pos ∈ reducePositions shape axes ∧ fullIdx shape.length axes (keepF axes.contains 0 idx) pos = s) ↔
      (InRange s shape ∧ keepF axes.contains 0 s = keepF axes.contains 0 idx) := by
  obtain ⟨hl, hK⟩ := inRange_mask_one hidx
  simp only [fullIdx_keepF axes _ idx hl]
  constructor
  · rintro ⟨pos, hpos, rfl⟩
    refine ⟨InRange_dim.2 ⟨(length_putAt ..).trans hl, fun j hj => ?_⟩, keepF_putAt ..⟩
    rw [dim_putAt _ _ _ (hl ▸ hj)]
    have := hK j hj
    split at this
    · next hc => rw [if_pos hc]; exact lookup_reducePositions shape axes pos hpos j (List.contains_iff_mem.1 hc)
    · next hc => rwa [if_neg hc]
  · rintro ⟨hs, he⟩
    obtain ⟨pos, hpos, hv⟩ := exists_reducePositions shape axes (dim s) fun a ha =>
      (InRange_dim.1 hs).2 a (hlt a ha)
    refine ⟨pos, hpos, ?_⟩
    rw [← fullIdx_keepF axes pos idx hl, ← he, fullIdx_keepF axes pos s (InRange_length hs)]
    exact putAt_eq_self _ _ s fun j _ hc => (hv j (List.contains_iff_mem.1 hc)).symm

/-- `r` is a maximal element of `l` -/
def IsMax (le : α → α → Bool) (r : α) (l : List α) : Prop := r ∈ l ∧ ∀ y ∈ l, le y r = true

omit [Inhabited α] in
/-- a left fold that keeps the larger of two elements (`c b y`: "`y` replaces `b`"), whichever way it
decides ties, ends on a maximal element -/
theorem foldl_isMax (le : α → α → Bool) (hle : TotalLe le) (c : α → α → Bool)
    (h1 : ∀ b y, c b y = true → le b y = true) (h0 : ∀ b y, c b y = false → le y b = true)
    (x : α) (xs : List α) : IsMax le (xs.foldl (fun b y => if c b y then y else b) x) (x :: xs) := by
  induction xs generalizing x with
  | nil => exact ⟨List.mem_cons_self, fun y hy => by rw [List.mem_singleton.1 hy]; exact hle.refl _⟩
  | cons y ys ih =>
    rw [List.foldl_cons, IsMax, List.forall_mem_cons, List.forall_mem_cons]
    cases hc : c x y with
    | true =>
      rw [if_pos rfl]
      obtain ⟨hm, hub⟩ := ih y
      rw [List.forall_mem_cons] at hub
      exact ⟨List.mem_cons_of_mem _ hm, hle.trans _ _ _ (h1 _ _ hc) hub.1, hub⟩
    | false =>
      rw [if_neg Bool.false_ne_true]
      obtain ⟨hm, hub⟩ := ih x
      rw [List.forall_mem_cons] at hub
      refine ⟨?_, hub.1, hle.trans _ _ _ (h0 _ _ hc) hub.1, hub.2⟩
      rcases List.mem_cons.1 hm with h | h
      · rw [h]; exact List.mem_cons_self
      · exact List.mem_cons_of_mem _ (List.mem_cons_of_mem _ h)

/-- the model's fold (first maximum of `L1`) and the spec's fold (last maximum of `L2`) pick the same
element when the two lists have the same elements and `le` is a linear order -/
theorem extremum_eq_pick (le : α → α → Bool) (hle : TotalLe le)
    (hantisymm : ∀ a b, le a b = true → le b a = true → a = b) (g : List Nat → α) (L1 : List α)
    (L2 : List (List Nat)) (hmem : ∀ v, v ∈ L1 ↔ v ∈ L2.map g) :
    (extremum (fun a b => !le a b) L1).getD default =
      (match (generalizing := false) L2 with
       | [] => default
       | s0 :: rest => rest.foldl (fun acc s => (fun a b => if le a b then b else a) acc (g s)) (g s0)) := by
  cases L1 with
  | nil =>
    cases L2 with
    | nil => rfl
    | cons s0 rest => exact absurd ((hmem (g s0)).2 List.mem_cons_self) List.not_mem_nil
  | cons x xs =>
    cases L2 with
    | nil => exact absurd ((hmem x).1 List.mem_cons_self) List.not_mem_nil
    | cons s0 rest =>
      have h1 := foldl_isMax le hle (fun b y => !le y b)
        (fun b y h => hle.of_false (by simpa using h)) (fun b y h => by simpa using h) x xs
      have h2 := foldl_isMax le hle le (fun _ _ h => h) (fun _ _ h => hle.of_false h) (g s0) (rest.map g)
      rw [List.foldl_map] at h2
      -- each of the two maxima occurs in the other list, so they are `le` each other
      exact hantisymm _ _ (h2.2 _ ((hmem _).1 h1.1)) (h1.2 _ ((hmem _).2 h2.1))

/-- the model's enumeration and the spec's filter of `allIdx` (`q`: "agrees with `idx` on the kept axes")
read the same elements of `t` -/
theorem reduce_value (le : α → α → Bool) (hle : TotalLe le)
    (hantisymm : ∀ a b, le a b = true → le b a = true → a = b)
    (t : Tensor α) (axes idx : List Nat) (hlt : ∀ a ∈ axes, a < t.shape.length)
    (hidx : InRange idx (maskWith 1 axes.contains 0 t.shape))
    (q : List Nat → Bool)
    (hq : ∀ s, InRange s t.shape → (q s = true ↔ keepF axes.contains 0 s = keepF axes.contains 0 idx)) :
    (extremum (fun a b => !le a b) ((reducePositions t.shape axes).map fun pos =>
        t.get (fullIdx t.shape.length axes (keepF axes.contains 0 idx) pos))).getD default =
      (match (allIdx t.shape).filter q with
       | [] => default
       | s0 :: rest => rest.foldl (fun acc s => (fun a b => if le a b then b else a) acc (t.get s)) (t.get s0)) := by
  refine extremum_eq_pick le hle hantisymm t.get _ _ fun v => ?_
  simp only [List.mem_map, List.mem_filter, mem_allIdx]
  constructor
  · rintro ⟨pos, hpos, rfl⟩
    obtain ⟨h1, h2⟩ := (reduce_sources t.shape axes idx hlt hidx _).1 ⟨pos, hpos, rfl⟩
    exact ⟨_, ⟨h1, (hq _ h1).2 h2⟩, rfl⟩
  · rintro ⟨s, ⟨h1, h2⟩, rfl⟩
    obtain ⟨pos, hpos, he⟩ := (reduce_sources t.shape axes idx hlt hidx s).2 ⟨h1, (hq _ h1).1 h2⟩
    exact ⟨pos, hpos, by rw [he]⟩

/-- the axes actually reduced: all of them when none are given -/
def effAxes (r : Nat) (nax : List Nat) : List Nat := if nax.isEmpty then List.range r else nax

theorem effAxes_lt (r : Nat) (nax : List Nat) (h : ∀ a ∈ nax, a < r) : ∀ a ∈ effAxes r nax, a < r := by
  unfold effAxes
  split
  · intro a ha; simpa using ha
  · exact h

theorem effAxes_nodup (r : Nat) (nax : List Nat) (h : nax.Nodup) : (effAxes r nax).Nodup := by
  unfold effAxes
  split
  · exact List.nodup_range
  · exact h

/-- with no listed axes the model reduces all axes, among them axis 0: the guard cannot fire -/
theorem innerAxesOnly_effAxes (r : Nat) (nax : List Nat) (h : innerAxesOnly r nax = false) :
    innerAxesOnly r (effAxes r nax) = false := by
  cases nax with
  | nil =>
    cases r with
    | zero => rfl
    | succ n =>
      have hm : 0 ∈ List.range (n + 1) := by simp
      have : (List.range (n + 1)).all (fun a => decide (2 ≤ a)) = false := by
        rw [List.all_eq_false]
        exact ⟨0, hm, by simp⟩
      simp [innerAxesOnly, effAxes, this]
  | cons a l => simpa [effAxes] using h

/-- the tensor `gReduce` computes when it reduces the axes `ax` -/
def reduceOut (better : α → α → Bool) (t : Tensor α) (ax : List Nat) : Tensor α :=
  ofFn (keepF ax.contains 0 t.shape) fun idx =>
    (extremum better ((reducePositions t.shape ax).map fun pos =>
      t.get (fullIdx t.shape.length ax idx pos))).getD default

theorem gReduce_ok (better : α → α → Bool) (t : Tensor α) (nax : List Nat) (hnd : nax.Nodup)
    (hlt : ∀ a ∈ nax, a < t.shape.length)
    (hin : innerAxesOnly t.shape.length (effAxes t.shape.length nax) = false) :
    gReduce better t (nax.map Int.ofNat) = .ok (reduceOut better t (effAxes t.shape.length nax)) := by
  have h1 : (nax.map Int.ofNat).any (· < 0) = false := by
    rw [List.any_map, List.any_eq_false]
    intro a _
    simp
  have h2 : (nax.map Int.ofNat).any (· ≥ (t.shape.length : Int)) = false := by
    rw [List.any_map, List.any_eq_false]
    intro a ha
    have := hlt a ha
    simp; omega
  have h3 : (nax.map Int.ofNat).map Int.toNat = nax := by simp [Function.comp_def]
  have h4 : (if (nax.map Int.ofNat).isEmpty then List.range t.shape.length else nax) =
      effAxes t.shape.length nax := by cases nax <;> rfl
  unfold gReduce
  simp only [h1, h2, h3, h4, eraseDups_of_nodup _ (effAxes_nodup _ _ hnd), hin, Bool.false_eq_true, if_false,
    ne_eq, not_true_eq_false]
  rfl

theorem normAxes_some {r : Nat} {axes : List Int} {nax : List Nat}
    (h : axes.mapM (Spec.normAxis r) = some nax) :
    axes.map (fun a => if a < 0 then (r : Int) + a else a) = nax.map Int.ofNat ∧ ∀ a ∈ nax, a < r := by
  obtain ⟨v, rfl, hv⟩ := mapM_some_eq_map h
  rw [List.map_map]
  exact ⟨List.map_congr_left fun a ha => normAxis_cast' (hv a ha),
    List.forall_mem_map.2 fun a ha => normAxis_lt (hv a ha)⟩

/-- `reduceOp` on valid, pairwise distinct axes outside the guard: with keepdims the LISTED axes are set
to 1, while no listed axes means that ALL axes were reduced -/
theorem reduceOp_eq (better : α → α → Bool) (t : Tensor α) (axes : List Int) (keep : Bool)
    (nax : List Nat) (hax : axes.mapM (Spec.normAxis t.shape.length) = some nax) (hnd : nax.Nodup)
    (hinner : innerAxesOnly t.shape.length nax = false) :
    reduceOp better t axes keep =
      if keep then
        if prod (maskWith 1 nax.contains 0 t.shape) =
            prod (keepF (effAxes t.shape.length nax).contains 0 t.shape) then
          .ok ⟨maskWith 1 nax.contains 0 t.shape, (reduceOut better t (effAxes t.shape.length nax)).data⟩
        else .error .shape
      else .ok (reduceOut better t (effAxes t.shape.length nax)) := by
  obtain ⟨hmap, hlt⟩ := normAxes_some hax
  have hset : (fun (s : List Nat) (a : Nat) => s.set (Int.ofNat a).toNat 1) = fun s a => s.set a 1 := by
    funext s a; simp
  unfold reduceOp
  simp only [hmap, gReduce_ok better t nax hnd hlt (innerAxesOnly_effAxes _ _ hinner), List.foldl_map, hset,
    foldl_set_one]
  rfl

theorem reduce_no_axes_keepdims (better : α → α → Bool) (t : Tensor α) (h : prod t.shape ≠ 1) :
    reduceOp better t [] true = .error .shape := by
  have hall : keepF (effAxes t.shape.length []).contains 0 t.shape = [] := by
    unfold keepF
    rw [List.map_eq_nil_iff, List.filter_eq_nil_iff]
    intro x hx
    have := List.mem_zipIdx hx
    simp [effAxes]
    omega
  rw [reduceOp_eq better t [] true [] rfl List.nodup_nil (by simp [innerAxesOnly]), if_pos rfl, hall,
    maskWith_eq_self 1 ([] : List Nat).contains t.shape fun _ _ h => nomatch h]
  exact if_neg h

theorem reduce_partial' (le : α → α → Bool) (hle : TotalLe le)
    (hantisymm : ∀ a b, le a b = true → le b a = true → a = b)
    (t : Tensor α) (axes : List Int) (keep : Bool)
    (nax : List Nat) (hax : axes.mapM (Spec.normAxis t.shape.length) = some nax) (hnd : nax.Nodup)
    (hguard : ¬ (axes = [] ∧ keep = true ∧ prod t.shape ≠ 1))
    (hinner : innerAxesOnly t.shape.length nax = false)
    (s : Tensor α) (hs : Spec.reduce (fun a b => if le a b then b else a) t axes keep = some s) :
    ∃ m, reduceOp (fun a b => !le a b) t axes keep = .ok m ∧ Equiv m s := by
  have hlt' := effAxes_lt _ _ (normAxes_some hax).2
  unfold Spec.reduce at hs
  simp only [hax, eraseDups_of_nodup nax hnd, Option.some.injEq] at hs
  subst hs
  rw [reduceOp_eq _ t axes keep nax hax hnd hinner]
  cases keep with
  | false =>
    refine ⟨_, rfl, equiv_ofFn fun idx hidx => ?_⟩
    obtain ⟨idx', hidx', rfl⟩ := exists_keepF hidx
    exact reduce_value le hle hantisymm t _ idx' hlt' hidx' _ fun s _ => beq_iff_eq
  | true =>
    -- the listed axes are the reduced ones, except when none are listed: then all extents are 1
    have hsh : maskWith 1 nax.contains 0 t.shape = maskWith 1 (effAxes t.shape.length nax).contains 0 t.shape := by
      cases nax with
      | nil =>
        have hax0 : axes = [] := List.map_eq_nil_iff.1 (normAxes_some hax).1
        have hp : prod t.shape = 1 := Classical.byContradiction fun hp => hguard ⟨hax0, rfl, hp⟩
        have h1 := fun (j : Nat) (hj : j < t.shape.length) => (prod_eq_one_iff _).1 hp _ (dim_mem hj)
        rw [maskWith_eq_self _ _ _ fun j hj _ => h1 j hj, maskWith_eq_self _ _ _ fun j hj _ => h1 j hj]
      | cons a l => rfl
    rw [if_pos rfl, hsh, if_pos (prod_mask_one _ _ _)]
    refine ⟨_, rfl, keepdims_equiv _ _ _ _ fun idx hidx => ?_⟩
    exact reduce_value le hle hantisymm t _ idx hlt' hidx _ fun s hs =>
      beq_iff_eq.trans (keepF_eq_iff_mask hidx (InRange_length hs)).symm

/-- pairs compared on the first component: a total preorder that is not antisymmetric -/
def leFst : Nat × Nat → Nat × Nat → Bool := fun a b => decide (a.1 ≤ b.1)

theorem leFst_total : TotalLe leFst :=
  ⟨fun a b => by simp only [leFst, decide_eq_true_eq]; exact Nat.le_total _ _,
   fun a b c h1 h2 => by simp only [leFst, decide_eq_true_eq] at *; exact Nat.le_trans h1 h2⟩

/-- two `le`-equivalent but different elements -/
def tiePair : Tensor (Nat × Nat) := ⟨[2], [(1, 0), (1, 1)]⟩

theorem tiePair_WF : tiePair.WF := rfl

theorem tiePair_pos : Pos tiePair.shape := by
  intro n hn
  simp only [tiePair, List.mem_singleton] at hn
  omega

/-- the spec (fold with `pick`, last maximum) returns `(1,1)`, the model (first maximum) `(1,0)` -/
theorem tiePair_spec :
    Spec.reduce (fun a b => if leFst a b then b else a) tiePair [0] false = some ⟨[], [(1, 1)]⟩ := by decide

theorem tiePair_model :
    reduceOp (fun a b => !leFst a b) tiePair [0] false = .ok ⟨[], [(1, 0)]⟩ := by decide

theorem totalLe_int : TotalLe (fun a b : Int => decide (a ≤ b)) :=
  ⟨fun a b => by simp only [decide_eq_true_eq]; exact Int.le_total _ _,
   fun a b c h1 h2 => by simp only [decide_eq_true_eq] at *; exact Int.le_trans h1 h2⟩

theorem antisymm_int : ∀ a b : Int, decide (a ≤ b) = true → decide (b ≤ a) = true → a = b := by
  intro a b h1 h2
  simp only [decide_eq_true_eq] at *
  omega

end Gonnx.Proofs.Reduce
