import Gonnx.Graph.Concurrent
/-
Helper lemmas for C17: the interleaving invariant of `runSched` under the `Disciplined` premise. The premise
is used instruction by instruction (`Allowed`): that form passes from a program to its tail, so the
induction over the schedule needs no record of how the remaining programs relate to the original ones.
-/
namespace Gonnx.Proofs.Concurrent
open Gonnx.Conc
variable {V : Type}

/-! ### `solo`, `writes`, `reads` -/

theorem solo_append (p q : List (Instr V)) (r : Regs V) (σ : St V) :
    solo (p ++ q) r σ = solo q (solo p r σ).1 (solo p r σ).2 := by
  induction p generalizing r σ with
  | nil => rfl
  | cons i p ih => simp only [List.cons_append, solo]; exact ih _ _

theorem solo_snoc (p : List (Instr V)) (i : Instr V) (r : Regs V) (σ : St V) :
    solo (p ++ [i]) r σ = stepI i (solo p r σ).1 (solo p r σ).2 := by
  rw [solo_append]; rfl

/-! ### the discipline, instruction by instruction -/

/-- what the discipline lets thread `k` do with one instruction: read an object that is private to no
other thread, write an object that is private to itself -/
def Allowed (priv : Nat → Obj → Bool) (k : Nat) : Instr V → Prop
  | .load o => ∀ l, l ≠ k → priv l o = false
  | .store o _ => priv k o = true

theorem allowed {progs : List (List (Instr V))} {priv : Nat → Obj → Bool} (hd : Disciplined progs priv)
    {k : Nat} {p : List (Instr V)} (hk : progs[k]? = some p) {i : Instr V} (hi : i ∈ p) : Allowed priv k i := by
  cases i with
  | load o => exact hd.reads_ok k p hk o (List.mem_filterMap.2 ⟨_, hi, rfl⟩)
  | store o f => exact hd.writes_private k p hk o (List.mem_filterMap.2 ⟨_, hi, rfl⟩)

theorem no_conflict (progs : List (List (Instr V))) (priv : Nat → Obj → Bool) (hd : Disciplined progs priv)
    (k l : Nat) (p q : List (Instr V)) (hk : progs[k]? = some p) (hl : progs[l]? = some q)
    (i j : Instr V) (hi : i ∈ p) (hj : j ∈ q) : ¬ Conflict k i l j := by
  rintro ⟨hne, hc⟩
  have hi := allowed hd hk hi
  have hj := allowed hd hl hj
  -- the object of a store is private to the storing thread, so the other thread may neither read nor write it
  cases i with
  | store o f =>
    cases j with
    | store o' g =>
      obtain rfl : o = o' := hc
      exact Bool.false_ne_true ((hd.disjoint k l o hne hi).symm.trans hj)
    | load o' =>
      obtain rfl : o = o' := hc
      exact Bool.false_ne_true ((hj k hne).symm.trans hi)
  | load o =>
    cases j with
    | store o' g =>
      obtain rfl : o = o' := hc
      exact Bool.false_ne_true ((hi l (Ne.symm hne)).symm.trans hj)
    | load o' => exact hc

/-! ### the invariant of `runSched` -/

/-- an allowed step of thread `l` leaves every object that is not private to `l` as it was -/
theorem step_frame {priv : Nat → Obj → Bool} {l : Nat} {i : Instr V} (hi : Allowed priv l i) (r : Regs V)
    (σ : St V) {x : Obj} (hx : priv l x = false) : (stepI i r σ).2 x = σ x := by
  cases i with
  | load o => rfl
  | store o f => exact if_neg fun he => by rw [he, hi] at hx; cases hx

/-- induction principle: a property preserved by every allowed step holds after any schedule of programs
all of whose instructions are allowed (the hypothesis on `ps` is inherited by what remains to be run after
a step, so the induction goes through for it) -/
theorem runSched_inv {priv : Nat → Obj → Bool} (P : List (List (Instr V)) → List (Regs V) → St V → Prop)
    (hstep : ∀ ps rs σ l i rest r, Allowed priv l i → P ps rs σ → ps[l]? = some (i :: rest) → rs[l]? = some r →
      P (ps.set l rest) (rs.set l (stepI i r σ).1) (stepI i r σ).2)
    (sched : Schedule) : ∀ ps rs σ, (∀ k q, ps[k]? = some q → ∀ i ∈ q, Allowed priv k i) → P ps rs σ →
      P (runSched sched ps rs σ).1 (runSched sched ps rs σ).2.1 (runSched sched ps rs σ).2.2 := by
  induction sched with
  | nil => intro ps rs σ _ h; exact h
  | cons l sched ih =>
    intro ps rs σ ha h
    unfold runSched
    split
    · next i rest r hp hr =>
      refine ih _ _ _ (fun k q hq j hj => ?_) (hstep ps rs σ l i rest r (ha l _ hp i List.mem_cons_self) h hp hr)
      by_cases hlk : l = k
      · subst hlk
        rw [List.getElem?_set_self (List.getElem?_eq_some_iff.1 hp).1] at hq
        cases hq
        exact ha l _ hp j (List.mem_cons_of_mem i hj)
      · rw [List.getElem?_set_ne hlk] at hq
        exact ha k q hq j hj
    · exact ih _ _ _ ha h

/-- two stores that agree on the objects `R`, among them the one the instruction reads, give the same
registers and again agree on `R` after the instruction -/
theorem stepI_congr (i : Instr V) (r : Regs V) (σ σ' : St V) (R : Obj → Prop) (hσ : ∀ o, R o → σ o = σ' o)
    (hread : ∀ o, i = .load o → R o) :
    (stepI i r σ).1 = (stepI i r σ').1 ∧ ∀ x, R x → (stepI i r σ).2 x = (stepI i r σ').2 x := by
  cases i with
  | load o => exact ⟨congrArg (r ++ [·]) (hσ o (hread o rfl)), hσ⟩
  | store o f => exact ⟨rfl, fun x hx => by simp only [stepI]; rw [hσ x hx]⟩

/-- what thread `k` sees: a split of its program, its registers, and the objects it may read -/
def ThreadInv (priv : Nat → Obj → Bool) (σ0 : St V) (k : Nat) (p : List (Instr V)) (r0 : Regs V)
    (ps : List (List (Instr V))) (rs : List (Regs V)) (σ : St V) : Prop :=
  ∃ done rest, p = done ++ rest ∧ ps[k]? = some rest ∧ rs[k]? = some (solo done r0 σ0).1 ∧
    ∀ o, (∀ l, l ≠ k → priv l o = false) → σ o = (solo done r0 σ0).2 o

theorem ThreadInv_step {priv : Nat → Obj → Bool} {σ0 : St V} {k : Nat} {p : List (Instr V)} {r0 : Regs V}
    {ps : List (List (Instr V))} {rs : List (Regs V)} {σ : St V} {l : Nat} {i : Instr V}
    {rest' : List (Instr V)} {r : Regs V} (hi : Allowed priv l i)
    (h : ThreadInv priv σ0 k p r0 ps rs σ) (hp : ps[l]? = some (i :: rest')) (hr : rs[l]? = some r) :
    ThreadInv priv σ0 k p r0 (ps.set l rest') (rs.set l (stepI i r σ).1) (stepI i r σ).2 := by
  obtain ⟨done, rest, hsplit, hps, hrs, hσ⟩ := h
  by_cases hlk : l = k
  · subst hlk
    rw [hps] at hp; cases hp
    rw [hrs] at hr; cases hr
    obtain ⟨hregs, hstore⟩ := stepI_congr i (solo done r0 σ0).1 σ (solo done r0 σ0).2
      (fun o => ∀ l', l' ≠ l → priv l' o = false) hσ (fun o ho => by subst ho; exact hi)
    refine ⟨done ++ [i], rest', by rw [hsplit]; simp, ?_, ?_, ?_⟩
    · rw [List.getElem?_set_self (List.getElem?_eq_some_iff.1 hps).1]
    · rw [List.getElem?_set_self (List.getElem?_eq_some_iff.1 hrs).1, solo_snoc, hregs]
    · rw [solo_snoc]
      exact hstore
  · refine ⟨done, rest, hsplit, ?_, ?_, ?_⟩
    · rw [List.getElem?_set_ne hlk]; exact hps
    · rw [List.getElem?_set_ne hlk]; exact hrs
    · intro x hx
      rw [step_frame hi r σ (hx l hlk)]
      exact hσ x hx

theorem interleave_result (progs : List (List (Instr V))) (priv : Nat → Obj → Bool) (hd : Disciplined progs priv)
    (sched : Schedule) (rs0 : List (Regs V)) (σ0 : St V)
    (k : Nat) (p : List (Instr V)) (hk : progs[k]? = some p) (r0 : Regs V) (hr : rs0[k]? = some r0) :
    ThreadInv priv σ0 k p r0 (runSched sched progs rs0 σ0).1 (runSched sched progs rs0 σ0).2.1
      (runSched sched progs rs0 σ0).2.2 := by
  apply runSched_inv (ThreadInv priv σ0 k p r0)
  · intro ps rs σ l i rest r hi h hp hr
    exact ThreadInv_step hi h hp hr
  · exact fun _ _ hq _ hi => allowed hd hq hi
  · exact ⟨[], p, rfl, hk, hr, fun _ _ => rfl⟩

theorem complete_result (progs : List (List (Instr V))) (priv : Nat → Obj → Bool) (hd : Disciplined progs priv)
    (sched : Schedule) (rs0 : List (Regs V)) (σ0 : St V)
    (hc : Complete sched progs rs0 σ0)
    (k : Nat) (p : List (Instr V)) (hk : progs[k]? = some p) (r0 : Regs V) (hr : rs0[k]? = some r0) :
    (runSched sched progs rs0 σ0).2.1[k]? = some (solo p r0 σ0).1 := by
  obtain ⟨done, rest, hsplit, hps, hrs, _⟩ := interleave_result progs priv hd sched rs0 σ0 k p hk r0 hr
  unfold Complete at hc
  rw [hc, List.getElem?_map, hk] at hps
  simp only [Option.map_some, Option.some.injEq] at hps
  subst hps
  rw [List.append_nil] at hsplit
  subst hsplit
  exact hrs

theorem shared_unchanged (progs : List (List (Instr V))) (priv : Nat → Obj → Bool) (hd : Disciplined progs priv)
    (sched : Schedule) (rs0 : List (Regs V)) (σ0 : St V) (o : Obj) (ho : ∀ k, priv k o = false) :
    (runSched sched progs rs0 σ0).2.2 o = σ0 o := by
  apply runSched_inv (priv := priv) (fun _ _ σ => σ o = σ0 o)
  · intro ps rs σ l i rest r hi h _ _
    rw [step_frame hi r σ (ho l)]
    exact h
  · exact fun _ _ hq _ hi => allowed hd hq hi
  · rfl

end Gonnx.Proofs.Concurrent
