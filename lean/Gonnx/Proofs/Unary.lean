import Gonnx.Ops.Unary
import Gonnx.Proofs.Binary
/-
Helper lemmas for C10: `Tensor.map` between two element types, and PRelu in closed form.
-/
namespace Gonnx.Proofs.Unary
open Gonnx Gonnx.Spec Gonnx.Proofs
variable {α β : Type}

theorem map_shape (f : α → β) (t : Tensor α) : (t.map f).shape = t.shape := rfl

theorem map_get [Inhabited α] [Inhabited β] (f : α → β) (t : Tensor α) (h : t.WF) (idx : List Nat)
    (hi : InRange idx t.shape) : (t.map f).get idx = f (t.get idx) := Tensor.get_map f h hi

/-- PRelu is a unidirectional binary operator (it skips the kernel's shape check, which cannot fail here) -/
theorem preluOp_eq [Inhabited α] (lt0 : α → Bool) (mul : α → α → α) (x slope : Tensor α) :
    preluOp lt0 mul x slope = applyBinary (fun v s => if lt0 v then mul s v else v) .uni x slope := by
  simp only [preluOp, applyBinary, unidirBroadcast_eq]
  by_cases hc : UniCompat x.shape slope.shape
  · simp only [if_pos hc, zipSame, if_pos (stretch_Is_of_uniCompat slope hc).1.symm]
  · simp only [if_neg hc]

end Gonnx.Proofs.Unary
