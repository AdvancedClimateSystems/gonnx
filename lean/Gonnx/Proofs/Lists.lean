import Gonnx.Core
/-
Facts about lists of extents and indices that are not about tensors.
A list is read with a default, `l.getD j d`; for shapes and indices this is `dim l j = l.getD j 0`, by `rfl`. A fact
about reading is stated once for `getD` and any element type where other types need it (`getD_zipWith`,
`getD_map_range`, `map_getD_range`), and its `dim_*` form is the instance that `rw` finds. `cons`, `append`, `take`,
`drop`, `set`, `modify`, `replicate`, `zipWith` and `map` over a range have a `dim_*` lemma (`map` and `zip` in
general have none); two lists are equal by `ext_dim`; an index is in range by `InRange_dim`; a list of length `n`
is the table `(range n).map (dim l)` (`tab_dim`), and tables are closed under `zipWith` (`zipWith_tab`).
-/
namespace Gonnx.Proofs
open Gonnx

/-! ### reading with a default -/

theorem getElem?_eq_some_getD {β : Type} {l : List β} {i : Nat} (h : i < l.length) (d : β) :
    l[i]? = some (l.getD i d) :=
  (List.getElem?_eq_getElem h).trans (congrArg some (List.getElem_eq_getD d))

theorem getD_map_range {β : Type} (n : Nat) (F : Nat → β) (i : Nat) (d : β) (hi : i < n) :
    ((List.range n).map F).getD i d = F i := by
  show ((List.range n).map F)[i]?.getD d = _
  rw [List.getElem?_map, List.getElem?_range hi]; rfl

/-- a list is the table of its entries -/
theorem map_getD_range {β : Type} (l : List β) (d : β) : (List.range l.length).map (l.getD · d) = l :=
  List.ext_getElem (by rw [List.length_map, List.length_range]) fun i _ _ => by
    rw [List.getElem_map, List.getElem_range]
    exact (List.getElem_eq_getD d).symm

theorem getD_zipWith {β γ δ : Type} (f : β → γ → δ) (a : List β) (b : List γ) (i : Nat) (ha : i < a.length)
    (hb : i < b.length) (d : δ) (da : β) (db : γ) :
    (List.zipWith f a b).getD i d = f (a.getD i da) (b.getD i db) := by
  show (List.zipWith f a b)[i]?.getD d = _
  rw [List.getElem?_zipWith, getElem?_eq_some_getD ha da, getElem?_eq_some_getD hb db]; rfl

/-- a list of copies of the default reads as the default everywhere -/
theorem getD_replicate_self {β : Type} (n : Nat) (a : β) (j : Nat) : (List.replicate n a).getD j a = a := by
  rw [List.getD_eq_getElem?_getD, List.getElem?_replicate]
  split <;> rfl

theorem getD_tail {β : Type} (l : List β) (d : β) (j : Nat) : l.tail.getD j d = l.getD (j+1) d :=
  congrArg (·.getD d) List.getElem?_tail

/-! ### `dim` -/

theorem dim_eq (l : List Nat) (j : Nat) : dim l j = l[j]?.getD 0 := rfl

theorem dim_nil (j : Nat) : dim [] j = 0 := rfl
theorem dim_cons_zero (a : Nat) (l : List Nat) : dim (a :: l) 0 = a := rfl
theorem dim_cons_succ (a : Nat) (l : List Nat) (j : Nat) : dim (a :: l) (j+1) = dim l j := rfl

theorem dim_of_le (l : List Nat) (j : Nat) (h : l.length ≤ j) : dim l j = 0 := by
  rw [dim_eq, List.getElem?_eq_none h]; rfl

theorem dim_of_lt {l : List Nat} {j : Nat} (h : j < l.length) : dim l j = l[j] :=
  (List.getElem_eq_getD 0).symm

theorem dim_mem {l : List Nat} {j : Nat} (hj : j < l.length) : dim l j ∈ l := by
  rw [dim_of_lt hj]
  exact List.getElem_mem hj

theorem ext_dim {l1 l2 : List Nat} (hl : l1.length = l2.length)
    (h : ∀ j, j < l1.length → dim l1 j = dim l2 j) : l1 = l2 := by
  apply List.ext_getElem hl
  intro j h1 h2
  rw [← dim_of_lt h1, ← dim_of_lt h2, h j h1]

theorem dim_modify (l : List Nat) (k j : Nat) (f : Nat → Nat) :
    dim (l.modify k f) j = if j = k ∧ j < l.length then f (dim l j) else dim l j := by
  rw [dim_eq, dim_eq, List.getElem?_modify]
  by_cases hj : j < l.length
  · simp [hj, eq_comm]
  · simp [hj]

theorem dim_set (l : List Nat) (k v j : Nat) :
    dim (l.set k v) j = if j = k ∧ j < l.length then v else dim l j := by
  rw [dim_eq, dim_eq, List.getElem?_set]
  by_cases hk : k = j
  · subst hk
    by_cases hj : k < l.length
    · simp [hj]
    · simp [hj]
  · simp [hk, Ne.symm hk]

/-- a list is not changed by writing an entry it already has -/
theorem set_dim_self (l : List Nat) (j : Nat) : l.set j (dim l j) = l := by
  apply ext_dim List.length_set
  intro k _
  rw [dim_set]
  split
  · next e => rw [e.1]
  · rfl

theorem dim_zipWith (f : Nat → Nat → Nat) (l1 l2 : List Nat) (j : Nat)
    (h1 : j < l1.length) (h2 : j < l2.length) :
    dim (List.zipWith f l1 l2) j = f (dim l1 j) (dim l2 j) :=
  getD_zipWith f l1 l2 j h1 h2 0 0 0

theorem dim_map_range (r : Nat) (f : Nat → Nat) (j : Nat) (hj : j < r) :
    dim ((List.range r).map f) j = f j :=
  getD_map_range r f j 0 hj

theorem dim_append (l1 l2 : List Nat) (j : Nat) :
    dim (l1 ++ l2) j = if j < l1.length then dim l1 j else dim l2 (j - l1.length) := by
  simp only [dim_eq, List.getElem?_append]; split <;> rfl

theorem dim_replicate (n a j : Nat) : dim (List.replicate n a) j = if j < n then a else 0 := by
  simp only [dim_eq, List.getElem?_replicate]; split <;> rfl

theorem dim_drop (l : List Nat) (d j : Nat) : dim (l.drop d) j = dim l (d + j) := by
  simp only [dim_eq, List.getElem?_drop]

theorem dim_take (l : List Nat) (n j : Nat) : dim (l.take n) j = if j < n then dim l j else 0 := by
  simp only [dim_eq, List.getElem?_take]; split <;> rfl

theorem zipWith_add_zeros (idx : List Nat) : List.zipWith (· + ·) (List.replicate idx.length 0) idx = idx := by
  induction idx with
  | nil => rfl
  | cons i is ih => rw [List.length_cons, List.replicate_succ, List.zipWith_cons_cons, ih, Nat.zero_add]

theorem all_zipWith_iff (f : Nat → Nat → Bool) (l1 l2 : List Nat) (hl : l1.length = l2.length) :
    (List.zipWith f l1 l2).all id = true ↔ ∀ j, j < l1.length → f (dim l1 j) (dim l2 j) = true := by
  induction l1 generalizing l2 with
  | nil => simp
  | cons a l1 ih =>
    cases l2 with
    | nil => cases hl
    | cons b l2 =>
      simp only [List.zipWith_cons_cons, List.all_cons, id, Bool.and_eq_true,
        ih l2 (Nat.succ.inj hl), List.length_cons, Nat.forall_lt_succ_left, dim_cons_zero, dim_cons_succ]

/-! ### tables: lists of the form `l.map f`, mostly over `l = range n` -/

theorem tab_dim {l : List Nat} {n : Nat} (h : l.length = n) : l = (List.range n).map (dim l) :=
  h ▸ (map_getD_range l 0).symm

/-- `zipWith` of two tables over one list of positions is a table. A list of length `n` is a table over `range n`
by `tab_dim`, a table by `rfl`, a `zipWith` of tables by this lemma again: nested `zipWith`s turn into one table
from the inside out, and no position has to be shown in range on the way -/
theorem zipWith_tab {ι β γ δ : Type} (f : β → γ → δ) {a : List β} {b : List γ} {l : List ι} {A : ι → β} {B : ι → γ}
    (ha : a = l.map A) (hb : b = l.map B) : List.zipWith f a b = l.map fun i => f (A i) (B i) := by
  rw [ha, hb, List.zipWith_map, List.zipWith_self]

/-- writing entry `k` of the table of `f` changes `f` at `k` -/
theorem set_map_range {β : Type} (n : Nat) (f : Nat → β) (k : Nat) (v : β) :
    ((List.range n).map f).set k v = (List.range n).map fun j => if k = j then v else f j := by
  apply List.ext_getElem (by simp)
  intro j _ _
  simp [List.getElem_set]

theorem isEmpty_of_length_pos {β : Type} {l : List β} {n : Nat} (h : l.length = n) (hn : 0 < n) :
    l.isEmpty = false :=
  List.isEmpty_eq_false_iff.2 (List.ne_nil_of_length_pos (h ▸ hn))

/-! ### indices in range -/

/-- `InRange_iff` (Core) with `idx.getD j 0` read as `dim idx j`: the form in which the `dim_*` lemmas apply -/
theorem InRange_dim {idx s : List Nat} :
    InRange idx s ↔ idx.length = s.length ∧ ∀ j, j < s.length → dim idx j < dim s j :=
  InRange_iff idx s

/-- an index of `s` with axis `ax` resized (`m = 1`: of one sample of `s`; `m = dim s ax`: of `s` itself), entry
`ax` rewritten -/
theorem InRange_set (s idx : List Nat) (ax n : Nat) {m : Nat} (h : InRange idx (s.set ax m)) (hn : n < dim s ax) :
    InRange (idx.set ax n) s := by
  rw [InRange_dim, List.length_set] at h
  rw [InRange_dim, List.length_set]
  refine ⟨h.1, fun j hj => ?_⟩
  have := h.2 j hj
  rw [dim_set] at this ⊢
  by_cases e : j = ax
  · subst e
    rw [if_pos ⟨rfl, h.1 ▸ hj⟩]
    exact hn
  · rwa [if_neg fun c => e c.1] at this ⊢

/-- an index of a shape of known rank is the list of its entries: with `s = [a, b, c]` the right-hand side
reduces to `[idx.getD 0 0, idx.getD 1 0, idx.getD 2 0]` -/
theorem InRange_eq_getD {idx s : List Nat} (h : InRange idx s) :
    idx = (List.range s.length).map fun j => idx.getD j 0 :=
  tab_dim (InRange_length h)

theorem InRange2_inv (idx : List Nat) (a b : Nat) (h : InRange idx [a, b]) :
    idx = [idx.getD 0 0, idx.getD 1 0] ∧ idx.getD 0 0 < a ∧ idx.getD 1 0 < b :=
  have hd := (InRange_dim.1 h).2
  ⟨InRange_eq_getD h, hd 0 (by decide : 0 < 2), hd 1 (by decide : 1 < 2)⟩

theorem InRange3_inv (idx : List Nat) (a b c : Nat) (h : InRange idx [a, b, c]) :
    idx = [idx.getD 0 0, idx.getD 1 0, idx.getD 2 0] ∧ idx.getD 0 0 < a ∧ idx.getD 1 0 < b ∧ idx.getD 2 0 < c :=
  have hd := (InRange_dim.1 h).2
  ⟨InRange_eq_getD h, hd 0 (by decide : 0 < 3), hd 1 (by decide : 1 < 3), hd 2 (by decide : 2 < 3)⟩

theorem InRange4_inv (idx : List Nat) (a b c d : Nat) (h : InRange idx [a, b, c, d]) :
    idx = [idx.getD 0 0, idx.getD 1 0, idx.getD 2 0, idx.getD 3 0] ∧ idx.getD 0 0 < a ∧
      idx.getD 1 0 < b ∧ idx.getD 2 0 < c ∧ idx.getD 3 0 < d :=
  have hd := (InRange_dim.1 h).2
  ⟨InRange_eq_getD h, hd 0 (by decide : 0 < 4), hd 1 (by decide : 1 < 4), hd 2 (by decide : 2 < 4),
    hd 3 (by decide : 3 < 4)⟩

/-! ### congruence on the members of a list (core has it for `map`, `List.map_congr_left`) -/

theorem zipWith_congr {β γ δ : Type} (f f' : β → γ → δ) (l : List β) (l' : List γ)
    (h : ∀ a ∈ l, ∀ b ∈ l', f a b = f' a b) : List.zipWith f l l' = List.zipWith f' l l' := by
  rw [← List.map_uncurry_zip_eq_zipWith, ← List.map_uncurry_zip_eq_zipWith]
  exact List.map_congr_left fun p hp => h _ (List.of_mem_zip hp).1 _ (List.of_mem_zip hp).2

theorem all_congr_mem {β : Type} (l : List β) (f g : β → Bool) (h : ∀ a ∈ l, f a = g a) :
    l.all f = l.all g := by
  rw [Bool.eq_iff_iff, List.all_eq_true, List.all_eq_true]
  exact ⟨fun hf a ha => h a ha ▸ hf a ha, fun hg a ha => (h a ha).symm ▸ hg a ha⟩

/-- core's `List.foldl_rel` at the relation `=` -/
theorem foldl_congr_mem {β ι : Type} (f g : β → ι → β) (l : List ι) (a : β)
    (h : ∀ acc, ∀ i ∈ l, f acc i = g acc i) : l.foldl f a = l.foldl g a :=
  List.foldl_rel (r := Eq) rfl fun i hi c _ e => e ▸ h c i hi

theorem foldl_fixed {β ι : Type} (f : β → ι → β) (l : List ι) (a : β) (h : ∀ acc, ∀ i ∈ l, f acc i = acc) :
    l.foldl f a = a :=
  List.foldlRecOn l f (motive := (· = a)) rfl fun b hb i hi => (h b i hi).trans hb

/-! ### sums as folds -/

theorem foldl_add_eq (l : List Int) (a : Int) : l.foldl (· + ·) a = a + l.sum := by
  induction l generalizing a with
  | nil => exact (Int.add_zero a).symm
  | cons x l ih => rw [List.foldl_cons, ih, List.sum_cons, Int.add_assoc]

theorem foldl_sub_eq (l : List Int) (a : Int) : l.foldl (fun acc x => acc - x) a = a - l.sum := by
  induction l generalizing a with
  | nil => exact (Int.sub_zero a).symm
  | cons x l ih => rw [List.foldl_cons, ih, List.sum_cons, Int.sub_sub]

/-- core's `List.foldl_add_const`, for summands that are equal on the members of the list -/
theorem foldl_add_const {β : Type} (f : β → Nat) (b : Nat) (l : List β) (h : ∀ x ∈ l, f x = b) (a : Nat) :
    (l.map f).foldl (· + ·) a = a + l.length * b := by
  rw [List.foldl_map, foldl_congr_mem _ (fun acc _ => acc + b) l a fun acc x hx => congrArg (acc + ·) (h x hx),
    List.foldl_add_const, Nat.mul_comm]

/-! ### `prod` -/

theorem prod_pos {l : List Nat} (h : ∀ n ∈ l, 0 < n) : 0 < prod l := by
  induction l with
  | nil => exact Nat.one_pos
  | cons a l ih => exact Nat.mul_pos (h a List.mem_cons_self) (ih fun n hn => h n (List.mem_cons_of_mem _ hn))

theorem prod_eq_one_iff (l : List Nat) : prod l = 1 ↔ ∀ d ∈ l, d = 1 := by
  induction l with
  | nil => simp
  | cons a l ih =>
    rw [prod_cons, List.forall_mem_cons, ← ih]
    exact ⟨fun h => ⟨Nat.eq_one_of_mul_eq_one_right h, Nat.eq_one_of_mul_eq_one_left h⟩,
      fun ⟨h1, h2⟩ => by rw [h1, h2]⟩

theorem prod_replicate_one (d : Nat) : prod (List.replicate d 1) = 1 :=
  (prod_eq_one_iff _).2 fun _ h => (List.mem_replicate.1 h).2

/-! ### `eraseDups` and `Nodup` -/

theorem eraseDups_of_nodup (l : List Nat) (h : l.Nodup) : l.eraseDups = l := by
  induction l with
  | nil => simp
  | cons a l ih =>
    rw [List.nodup_cons] at h
    rw [List.eraseDups_cons, show (l.filter fun b => !b == a) = l from List.filter_bne_eq_self_of_not_mem h.1,
      ih h.2]

theorem eraseDups_length_le : (l : List Nat) → l.eraseDups.length ≤ l.length
  | [] => Nat.le_refl _
  | a :: l => by
    rw [List.eraseDups_cons, List.length_cons, List.length_cons]
    exact Nat.succ_le_succ (Nat.le_trans (eraseDups_length_le _) (List.length_filter_le _ l))
termination_by l => l.length
decreasing_by exact Nat.lt_succ_of_le (List.length_filter_le _ l)

theorem eraseDups_length_eq_iff (l : List Nat) : l.eraseDups.length = l.length ↔ l.Nodup := by
  refine ⟨fun h => ?_, fun h => congrArg List.length (eraseDups_of_nodup l h)⟩
  induction l with
  | nil => exact List.nodup_nil
  | cons a l ih =>
    rw [List.eraseDups_cons, List.length_cons, List.length_cons] at h
    have h1 := List.length_filter_le (fun b => !b == a) l
    have h2 := eraseDups_length_le (l.filter fun b => !b == a)
    -- nothing was filtered out, so `a` does not occur in `l`
    have hall := List.length_filter_eq_length_iff.1 (show (l.filter fun b => !b == a).length = l.length by omega)
    rw [List.filter_eq_self.2 hall] at h
    exact List.nodup_cons.2 ⟨fun ha => by simpa using hall a ha, ih (by omega)⟩

/-! ### axes -/

/-- the natural-number spelling of an axis `a` of a rank-`r` tensor: negative axes count from the end -/
abbrev natAxis (r : Int) (a : Int) : Nat := (if a < 0 then a + r else a).toNat

/-- an axis in range, offset when negative as the operators do, lies in [0, r): it is the cast of
its natural-number spelling -/
theorem natAxis_cast {r : Nat} {a : Int} (h : -(r : Int) ≤ a ∧ a < r) :
    (if a < 0 then a + (r : Int) else a) = (natAxis r a : Int) ∧ natAxis r a < r := by
  have h0 : 0 ≤ (if a < 0 then a + (r : Int) else a) := by omega
  exact ⟨(Int.toNat_of_nonneg h0).symm, (Int.toNat_lt h0).mpr (by omega)⟩

/-- an axis counted from the end is out of range after the offset exactly if it was before -/
theorem offset_out_iff (axis r : Int) (hr : 0 ≤ r) :
    ((if axis < 0 then axis + r else axis) < 0 ∨ (if axis < 0 then axis + r else axis) ≥ r) ↔
      (axis < -r ∨ axis ≥ r) := by
  split <;> omega

/-! ### extents as integers -/

theorem map_toNat_cast (s : List Nat) : (s.map (fun (d : Nat) => (d : Int))).map Int.toNat = s := by
  rw [List.map_map]; exact List.map_id'' (fun _ => rfl) s

theorem map_cast_nonneg {s : List Nat} : ∀ d ∈ s.map (fun (d : Nat) => (d : Int)), 0 ≤ d :=
  List.forall_mem_map.2 fun n _ => Int.natCast_nonneg n

theorem any_neg_cast (l : List Nat) :
    ((l.map (fun (p : Nat) => (p : Int))).any fun x => decide (x < 0)) = false := by
  rw [List.any_eq_false]
  intro a ha
  exact Int.not_lt.2 (map_cast_nonneg a ha) ∘ of_decide_eq_true

theorem map_natAxis_cast {r : Nat} {axes : List Int} (hr : ∀ a ∈ axes, -(r : Int) ≤ a ∧ a < r) :
    (axes.map fun a => if a < 0 then a + (r : Int) else a) =
      (axes.map (natAxis r)).map (fun (d : Nat) => (d : Int)) := by
  rw [List.map_map]
  exact List.map_congr_left fun a ha => (natAxis_cast (hr a ha)).1

end Gonnx.Proofs
