import Gonnx.Graph.Run
import Gonnx.Spec.Run
import Gonnx.Proofs.Assoc
import Gonnx.Proofs.MapM
/-
Helper lemmas for C01 (Gonnx/Theorems/C01.lean): the node loop of `run` against the demand-driven
`Spec.value`. Core-only.
-/
namespace Gonnx.C01
open Gonnx
variable {V : Type}

/-- names a node may read at position `i`: caller inputs, initializers, outputs of earlier nodes -/
def available (g : Graph V) (ins : List (String × V)) (i : Nat) : List String :=
  ins.map (·.1) ++ g.inits.map (·.1) ++ ((g.nodes.take i).map (·.outs)).flatten

/-- well-formed: nodes in topological order, every value written once (SSA) and never under the
name of a caller input or initializer -/
structure WF (g : Graph V) (ins : List (String × V)) : Prop where
  topo : ∀ i (h : i < g.nodes.length), ∀ a ∈ (g.nodes[i]).ins, a ≠ "" → a ∈ available g ins i
  ssa : ((g.nodes.map (·.outs)).flatten).Nodup
  fresh : ∀ o ∈ (g.nodes.map (·.outs)).flatten, o ∉ ins.map (·.1) ∧ o ∉ g.inits.map (·.1)

/-- **The first binding of a name is also its last**, in the caller's tensors and in the
initializers. `run` builds its environment so that the *last* binding of a name wins (Go map
assignment), `Spec.value` looks names up front to back; the two agree exactly under this
condition. It holds whenever names are unique (`FirstBindingWins.of_unique`) — which they are in Go,
where both collections are maps. -/
def FirstBindingWins (g : Graph V) (ins : List (String × V)) : Prop :=
  (∀ a, List.lookup a ins.reverse = List.lookup a ins) ∧
  (∀ a, List.lookup a g.inits.reverse = List.lookup a g.inits)

/-- no name is bound twice among the caller's tensors, nor among the initializers -/
def UniqueNames (g : Graph V) (ins : List (String × V)) : Prop :=
  (ins.map (·.1)).Nodup ∧ (g.inits.map (·.1)).Nodup

end Gonnx.C01

namespace Gonnx.Proofs.Run
open Gonnx Gonnx.C01 Gonnx.Proofs
variable {V : Type} {sem : Nat → List (Option V) → Res (List (Option V))}

theorem _root_.Gonnx.C01.FirstBindingWins.of_unique {g : Graph V} {ins : List (String × V)} (h : UniqueNames g ins) :
    FirstBindingWins g ins :=
  ⟨fun a => (lookup_perm a (List.reverse_perm ins).symm h.1).symm,
   fun a => (lookup_perm a (List.reverse_perm g.inits).symm h.2).symm⟩

/-! ### `gatherInputs`, `collectOutputs` -/

/-- one input name of a node: "" is an absent optional input, any other name must be bound -/
def readName (env : Env V) (n : String) : Res (Option V) :=
  if n = "" then .ok none else match env.find n with
    | none => .error .model
    | some v => .ok v

theorem readName_ok {env : Env V} {n : String} {w : Option V} :
    readName env n = .ok w ↔ (n = "" ∧ w = none) ∨ (n ≠ "" ∧ env.find n = some w) := by
  unfold readName
  split
  · simp [*, eq_comm]
  · cases env.find n <;> simp [*]

theorem gatherInputs_eq_mapM (env : Env V) (l : List String) : gatherInputs env l = l.mapM (readName env) := by
  induction l with
  | nil => rfl
  | cons n rest ih =>
    rw [List.mapM_cons, ← ih, gatherInputs, readName]
    split
    · cases gatherInputs env rest <;> rfl
    · cases env.find n with
      | none => rfl
      | some v => cases gatherInputs env rest <;> rfl

/-- what a successful collection returns: the declared names, in order, each with the tensor it is bound to -/
theorem collect_ok (env : Env V) : ∀ (os : List String) (outs : List (String × V)),
    collectOutputs env os = .ok outs →
      outs.map (·.1) = os ∧ ∀ p ∈ outs, env.find p.1 = some (some p.2)
  | [], outs, h => by
    cases h
    exact ⟨rfl, fun _ hp => nomatch hp⟩
  | o :: os, outs, h => by
    rw [collectOutputs] at h
    split at h
    · next v hv =>
      cases hr : collectOutputs env os with
      | error e => rw [hr] at h; cases h
      | ok outs' =>
        rw [hr] at h
        cases h
        obtain ⟨h1, h2⟩ := collect_ok env os outs' hr
        refine ⟨congrArg (o :: ·) h1, fun p hp => ?_⟩
        rcases List.mem_cons.1 hp with rfl | hp
        · exact hv
        · exact h2 p hp
    · cases h

/-! ### `bindOutputs` -/

theorem bind_ok {env : Env V} {names : List String} {outs : List (Option V)} {env' : Env V} :
    bindOutputs env names outs = .ok env' ↔
      names.length = outs.length ∧ env' = (names.zip outs).reverse ++ env := by
  unfold bindOutputs
  split <;> simp_all [eq_comm]

theorem bind_find_mem (env : Env V) (names : List String) (outs : List (Option V)) (env' : Env V)
    (hn : names.Nodup) (h : bindOutputs env names outs = .ok env') (k : Nat) (hk : k < names.length) :
    env'.find (names[k]) = some (outs.getD k none) := by
  obtain ⟨hlen, rfl⟩ := bind_ok.1 h
  have hk' : k < outs.length := hlen ▸ hk
  have hkeys : (((names.zip outs).reverse).map (·.1)).Nodup := by
    rw [List.map_reverse, List.map_fst_zip (Nat.le_of_eq hlen)]
    exact (List.reverse_perm names).nodup_iff.2 hn
  have hl : List.lookup names[k] (names.zip outs).reverse = some outs[k] :=
    (lookup_eq_some_iff_mem hkeys _ _).2
      (List.mem_reverse.2 (List.mem_iff_getElem.2 ⟨k, by rw [List.length_zip]; omega, List.getElem_zip⟩))
  simp [Env.find, List.lookup_append, hl, List.getD_eq_getElem?_getD, hk']

theorem bind_find_not_mem (env : Env V) (names : List String) (outs : List (Option V)) (env' : Env V)
    (h : bindOutputs env names outs = .ok env') (name : String) (hnot : name ∉ names) :
    env'.find name = env.find name := by
  obtain ⟨_, rfl⟩ := bind_ok.1 h
  have hl : List.lookup name (names.zip outs).reverse = none :=
    lookup_eq_none_of_not_mem _ _ fun hmem => by
      obtain ⟨p, hp, rfl⟩ := List.mem_map.mp hmem
      exact hnot (List.of_mem_zip (List.mem_reverse.mp hp)).1
  simp [Env.find, List.lookup_append, hl]

/-! ### `runNodes`: equations and the loop rule -/

/-- one pass of the loop body: gather, apply, bind -/
def stepNode (sem : Nat → List (Option V) → Res (List (Option V))) (i : Nat) (n : GNode) (env : Env V) :
    Res (Env V) :=
  gatherInputs env n.ins >>= fun vs => sem i vs >>= fun outs => bindOutputs env n.outs outs

theorem runNodes_cons (i : Nat) (n : GNode) (rest : List GNode) (env : Env V) :
    runNodes sem i (n :: rest) env = stepNode sem i n env >>= runNodes sem (i+1) rest := by
  rw [runNodes, stepNode]
  cases gatherInputs env n.ins with
  | error e => rfl
  | ok vs =>
    dsimp only [ok_bind]
    cases sem i vs with
    | error e => rfl
    | ok outs =>
      dsimp only [ok_bind]
      cases bindOutputs env n.outs outs <;> rfl

theorem runNodes_append (rest : List GNode) : ∀ (pre : List GNode) (i : Nat) (env : Env V),
    runNodes sem i (pre ++ rest) env = runNodes sem i pre env >>= runNodes sem (i + pre.length) rest
  | [], i, env => rfl
  | p :: pre, i, env => by
    rw [List.cons_append, runNodes_cons, runNodes_cons]
    cases stepNode sem i p env with
    | error e => rfl
    | ok env' =>
      rw [List.length_cons, ← Nat.add_assoc, Nat.add_right_comm]
      exact runNodes_append rest pre (i + 1) env'

theorem stepNode_ok {i : Nat} {n : GNode} {env env' : Env V} (h : stepNode sem i n env = .ok env') :
    ∃ vs outs, gatherInputs env n.ins = .ok vs ∧ sem i vs = .ok outs ∧ bindOutputs env n.outs outs = .ok env' := by
  obtain ⟨vs, hg, h⟩ := bind_eq_ok.1 h
  obtain ⟨outs, hs, hb⟩ := bind_eq_ok.1 h
  exact ⟨vs, outs, hg, hs, hb⟩

/-- **Loop rule.** A property of (number of nodes done, environment) that every successful pass of
the body preserves holds at the end of a successful loop. -/
theorem runNodes_inv (P : Nat → Env V → Prop) (nodes : List GNode)
    (hstep : ∀ pre n rest env env', nodes = pre ++ n :: rest → P pre.length env →
      stepNode sem pre.length n env = .ok env' → P (pre.length + 1) env') :
    ∀ (rest pre : List GNode) (env envF : Env V), nodes = pre ++ rest → P pre.length env →
      runNodes sem pre.length rest env = .ok envF → P nodes.length envF
  | [], pre, env, envF, hsplit, hP, h => by
    cases h
    rw [hsplit, List.append_nil]; exact hP
  | n :: rest, pre, env, envF, hsplit, hP, h => by
    rw [runNodes_cons] at h
    obtain ⟨env', hs, h⟩ := bind_eq_ok.1 h
    have hP' := hstep pre n rest env env' hsplit hP hs
    have hlen : (pre ++ [n]).length = pre.length + 1 := by simp
    rw [← hlen] at hP' h
    exact runNodes_inv P nodes hstep rest (pre ++ [n]) env' envF (by simp [hsplit]) hP' h

/-- names unknown to the environment and written by no node stay unknown -/
theorem runNodes_find_none (name : String) (nodes : List GNode) (env envF : Env V)
    (h : runNodes sem 0 nodes env = .ok envF) (hf : env.find name = none)
    (hno : name ∉ (nodes.map (·.outs)).flatten) : envF.find name = none := by
  refine runNodes_inv (fun _ env => env.find name = none) nodes ?_ nodes [] env envF rfl hf h
  intro pre n rest env env' hsplit hP hs
  obtain ⟨vs, outs, _, _, hb⟩ := stepNode_ok hs
  rw [bind_find_not_mem env n.outs outs env' hb name, hP]
  exact fun hmem => hno (List.mem_flatten.2 ⟨n.outs, List.mem_map.2 ⟨n, by simp [hsplit], rfl⟩, hmem⟩)

/-! ### `run` -/

/-- the environment a node loop starts from: parameters first, then the caller's tensors -/
def env0 (inits ins : List (String × V)) : Env V :=
  (ins.map fun (n, v) => (n, some v)).reverse ++ (inits.map fun (n, v) => (n, some v)).reverse

theorem run_eq (shapeOf : V → List Nat) (g : Graph V) (ins : List (String × V)) :
    run shapeOf sem g ins =
      validateShapes g.decls (g.inits.map (·.1)) (ins.map fun (n, v) => (n, shapeOf v)) >>= fun _ =>
      runNodes sem 0 g.nodes (env0 g.inits ins) >>= fun env => collectOutputs env g.outputs := by
  unfold run
  cases validateShapes g.decls (g.inits.map (·.1)) (ins.map fun (n, v) => (n, shapeOf v)) with
  | error e => rfl
  | ok u =>
    rw [ok_bind]
    show (match runNodes sem 0 g.nodes (env0 g.inits ins) with | .error e => _ | .ok env => _) = _
    cases runNodes sem 0 g.nodes (env0 g.inits ins) <;> rfl

theorem run_ok {shapeOf : V → List Nat} {g : Graph V} {ins : List (String × V)} {outs : List (String × V)}
    (h : run shapeOf sem g ins = .ok outs) :
    ∃ env, runNodes sem 0 g.nodes (env0 g.inits ins) = .ok env ∧ collectOutputs env g.outputs = .ok outs := by
  rw [run_eq] at h
  obtain ⟨_, _, h⟩ := bind_eq_ok.1 h
  exact bind_eq_ok.1 h

theorem env0_find (inits ins : List (String × V)) (a : String) :
    (env0 inits ins).find a = ((List.lookup a ins.reverse).or (List.lookup a inits.reverse)).map some := by
  simp only [env0, Env.find, ← List.map_reverse, ← List.map_append, ← List.lookup_append]
  exact lookup_map_snd some a _

/-! ### `Spec.value` -/

/-- the value of `name` as output of node `n` (index `i`), given the values `F` of its inputs -/
def nodeVal (sem : Nat → List (Option V) → Res (List (Option V))) (F : String → Res (Option V))
    (n : GNode) (i : Nat) (name : String) : Res (Option V) :=
  match n.ins.mapM (fun a => if a = "" then (.ok none : Res (Option V)) else F a) with
  | .error e => .error e
  | .ok vs =>
    match sem i vs with
    | .error e => .error e
    | .ok outs =>
      if outs.length ≠ n.outs.length then .error .model
      else .ok (outs.getD (n.outs.idxOf name) none)

/-- One unfolding. The two tables are consulted as `env0_find` says the initial environment is. -/
theorem value_succ (sem : Nat → List (Option V) → Res (List (Option V))) (g : Graph V)
    (ins : List (String × V)) (fuel : Nat) (name : String) :
    Spec.value sem g ins (fuel+1) name =
      match (List.lookup name ins).or (List.lookup name g.inits) with
      | some v => .ok (some v)
      | none =>
        match (g.nodes.zipIdx.filter fun (n, _) => n.outs.contains name).getLast? with
        | none => .error .model
        | some (n, i) => nodeVal sem (Spec.value sem g ins fuel) n i name := by
  show (match List.lookup name ins with
    | some v => _
    | none => match List.lookup name g.inits with
      | some v => _
      | none => _) = _
  cases List.lookup name ins with
  | some v => rfl
  | none => cases List.lookup name g.inits <;> rfl

theorem nodeVal_ok {F : String → Res (Option V)} {n : GNode} {i : Nat} {name : String} {vs outs : List (Option V)}
    (hargs : n.ins.mapM (fun a => if a = "" then (.ok none : Res (Option V)) else F a) = .ok vs)
    (hs : sem i vs = .ok outs) (hlen : outs.length = n.outs.length) :
    nodeVal sem F n i name = .ok (outs.getD (n.outs.idxOf name) none) := by
  simp only [nodeVal, hargs, hs, hlen, ne_eq, not_true_eq_false, if_false]

theorem nodeVal_mono (sem : Nat → List (Option V) → Res (List (Option V))) (F G : String → Res (Option V))
    (n : GNode) (i : Nat) (name : String) (w : Option V)
    (hFG : ∀ a ∈ n.ins, a ≠ "" → ∀ w, F a = .ok w → G a = .ok w)
    (h : nodeVal sem F n i name = .ok w) : nodeVal sem G n i name = .ok w := by
  unfold nodeVal at h ⊢
  split at h
  · cases h
  · rename_i vs hvs
    rw [mapM_ok_mono _ _ n.ins vs (fun a ha w hw => ?_) hvs]
    · exact h
    · by_cases hne : a = ""
      · rwa [if_pos hne] at hw ⊢
      · rw [if_neg hne] at hw ⊢; exact hFG a ha hne w hw

/-- one more unit of fuel never changes a value -/
theorem value_mono_succ (sem : Nat → List (Option V) → Res (List (Option V))) (g : Graph V)
    (ins : List (String × V)) : ∀ (f : Nat) (name : String) (w : Option V),
    Spec.value sem g ins f name = .ok w → Spec.value sem g ins (f+1) name = .ok w
  | 0, _, _, h => nomatch h
  | f+1, name, w, h => by
    rw [value_succ] at h ⊢
    revert h
    -- both sides consult the same tables; only the recursive calls differ
    cases (List.lookup name ins).or (List.lookup name g.inits) with
    | some v => exact id
    | none =>
      cases (g.nodes.zipIdx.filter fun (n, _) => n.outs.contains name).getLast? with
      | none => exact id
      | some p => exact nodeVal_mono sem _ _ p.1 p.2 name w fun a _ _ => value_mono_succ sem g ins f a

/-! ### the producer of a name -/

theorem ssa_split (pre : List GNode) (n : GNode) (rest : List GNode)
    (h : (((pre ++ n :: rest).map (·.outs)).flatten).Nodup) :
    n.outs.Nodup ∧ ∀ name ∈ n.outs, name ∉ (rest.map (·.outs)).flatten := by
  simp only [List.map_append, List.map_cons, List.flatten_append, List.flatten_cons, List.nodup_append] at h
  exact ⟨h.2.1.1, fun name hname hmem => h.2.1.2.2 name hname name hmem rfl⟩

/-- the specification's producer of a name is the last node that lists it; earlier ones do not matter -/
theorem producer_last (pre : List GNode) (n : GNode) (rest : List GNode) (name : String) (hname : name ∈ n.outs)
    (hrest : name ∉ (rest.map (·.outs)).flatten) :
    (((pre ++ n :: rest).zipIdx).filter fun (m, _) => m.outs.contains name).getLast? = some (n, pre.length) := by
  have hnil (k : Nat) : (rest.zipIdx k).filter (fun (m, _) => m.outs.contains name) = [] :=
    List.filter_eq_nil_iff.2 fun p hp hc => hrest (List.mem_flatten.2
      ⟨p.1.outs, List.mem_map_of_mem (List.fst_mem_of_mem_zipIdx hp), by simpa using hc⟩)
  rw [List.zipIdx_append, List.zipIdx_cons, List.filter_append, List.filter_cons, hnil]
  simp [hname]

/-! ### the invariant of the node loop -/

/-- after `i` nodes: whatever the environment binds a name to is the demand-driven value of the
name, at fuel `i + 1` (hence at any larger one, `value_mono_succ`) -/
def Inv (sem : Nat → List (Option V) → Res (List (Option V))) (g : Graph V) (ins : List (String × V))
    (i : Nat) (env : Env V) : Prop :=
  ∀ name w, env.find name = some w → Spec.value sem g ins (i + 1) name = .ok w

theorem inv_env0 (sem : Nat → List (Option V) → Res (List (Option V))) (g : Graph V) (ins : List (String × V))
    (hnames : FirstBindingWins g ins) : Inv sem g ins 0 (env0 g.inits ins) := by
  intro name w hf
  rw [env0_find, hnames.1, hnames.2] at hf
  obtain ⟨v, hv, rfl⟩ := Option.map_eq_some_iff.1 hf
  rw [value_succ, hv]

theorem inv_step (sem : Nat → List (Option V) → Res (List (Option V))) (g : Graph V) (ins : List (String × V))
    (hssa : ((g.nodes.map (·.outs)).flatten).Nodup)
    (hfresh : ∀ o ∈ (g.nodes.map (·.outs)).flatten, o ∉ ins.map (·.1) ∧ o ∉ g.inits.map (·.1))
    (pre : List GNode) (n : GNode) (rest : List GNode) (env env' : Env V) (hsplit : g.nodes = pre ++ n :: rest)
    (hinv : Inv sem g ins pre.length env) (hstep : stepNode sem pre.length n env = .ok env') :
    Inv sem g ins (pre.length + 1) env' := by
  obtain ⟨vs, outs, hg, hs, hb⟩ := stepNode_ok hstep
  intro name w hf
  by_cases hmem : name ∈ n.outs
  · obtain ⟨hnd, hlast⟩ := ssa_split pre n rest (hsplit ▸ hssa)
    obtain ⟨h1, h2⟩ := hfresh name
      (List.mem_flatten.2 ⟨n.outs, List.mem_map.2 ⟨n, by simp [hsplit], rfl⟩, hmem⟩)
    -- the name is bound to the result at its position
    have hk : n.outs.idxOf name < n.outs.length := List.idxOf_lt_length_iff.2 hmem
    have hpos := bind_find_mem env n.outs outs env' hnd hb _ hk
    rw [List.getElem_idxOf hk, hf] at hpos
    cases hpos
    -- the specification finds this very node and evaluates it on the arguments that were gathered
    rw [value_succ, lookup_eq_none_of_not_mem _ _ h1, lookup_eq_none_of_not_mem _ _ h2, hsplit]
    simp only [Option.or, producer_last pre n rest name hmem (hlast name hmem)]
    rw [gatherInputs_eq_mapM] at hg
    refine nodeVal_ok (mapM_ok_mono _ _ n.ins vs (fun a _ w' hw' => ?_) hg) hs (bind_ok.1 hb).1.symm
    rcases readName_ok.1 hw' with ⟨rfl, rfl⟩ | ⟨hne, hfa⟩
    · rfl
    · rw [if_neg hne]; exact hinv a w' hfa
  · rw [bind_find_not_mem env n.outs outs env' hb name hmem] at hf
    exact value_mono_succ sem g ins _ name w (hinv name w hf)

/-- **The node loop refines the specification**: every binding of the final environment (not only
those of the declared outputs) is the demand-driven value of its name. Topological order is not
assumed: a loop that succeeded has found every input it asked for. -/
theorem runNodes_refines (sem : Nat → List (Option V) → Res (List (Option V))) (g : Graph V) (ins : List (String × V))
    (hssa : ((g.nodes.map (·.outs)).flatten).Nodup)
    (hfresh : ∀ o ∈ (g.nodes.map (·.outs)).flatten, o ∉ ins.map (·.1) ∧ o ∉ g.inits.map (·.1))
    (hnames : FirstBindingWins g ins) (env : Env V) (h : runNodes sem 0 g.nodes (env0 g.inits ins) = .ok env) :
    Inv sem g ins g.nodes.length env :=
  runNodes_inv (Inv sem g ins) g.nodes (inv_step sem g ins hssa hfresh) g.nodes [] (env0 g.inits ins) env rfl
    (inv_env0 sem g ins hnames) h

end Gonnx.Proofs.Run
