import Gonnx.Proofs.Batch
import Gonnx.Proofs.MatMul
import Gonnx.Proofs.Binary
import Gonnx.Proofs.Shape
/-
C16, the operators that act per sample (helper lemmas for Theorems/C16.lean, C16b.lean, C16c.lean). The elementwise
operators are treated for any batch axis; the theorems the documents cite have it on axis 0, as have MatMul, Gemm,
LinearRegressor, Scaler and Flatten. Three namespace blocks, because the theorems keep the full names under which
the documents cite them: `Proofs.Batch` (unary operators, MatMul against a weight), `Proofs.Batch2`,
`Proofs.Batch3` (two batched operands).
Elementwise binary operators: one theorem about samples of a broadcast (`binary_sample`), in which each operand
either carries the batch or does not (`SampleOf`); a weight on the right, a weight on the left and two batched
operands are its instances. Gemm / LinearRegressor / Scaler are compositions of per-sample stages
(`PerSampleOn.comp`). Flatten. Conv: Proofs/Batch2Conv.lean. RNN / GRU / LSTM: Proofs/Batch2Rec.lean.
-/
namespace Gonnx.Proofs.Batch
open Gonnx Gonnx.Proofs
variable {α β γ : Type}

theorem unary_pointwise [Inhabited α] [Inhabited β] (ax : Nat) (f : α → β) :
    BatchPointwise ax ax (fun X => (.ok (unaryOp f X) : Res (Tensor β))) := by
  intro X Y hX hax h
  cases h
  refine ⟨⟨Tensor.map_WF f hX.1, hX.2⟩, hax, rfl, fun n hn => congrArg Except.ok ?_⟩
  exact (map_ofFn f _ _).trans
    (ofFn_congr fun idx hidx => (Tensor.get_map f hX.1 (InRange_set _ _ ax n hidx hn)).symm)

/-- rows of a matrix product are independent. Of the weight only the positivity of its second extent is
used (LinearRegressor: the number of targets). -/
theorem mm2_perSample [Inhabited α] (A : Arith α) (W : Tensor α) (hW : ∀ k m, W.shape = [k, m] → 0 < m) :
    BatchPointwise 0 0 (fun X => mm2 A X W) := by
  intro X Y hX _ h
  obtain ⟨n, k, m, hXs, hWs⟩ := MatMul.mm2_inv A X W Y h
  have h : mm2 A X W = .ok Y := h
  rw [MatMul.mm2_ok A X W n k m hXs hWs] at h
  cases h
  have hn : 0 < n := hX.2 n (by rw [hXs]; exact List.mem_cons_self)
  rw [hXs, dim_cons_zero]
  refine ⟨Good_ofFn _ _ ((MatMul.Pos2 _ _).2 ⟨hn, hW k m hWs⟩), Nat.succ_pos _, rfl, fun i hi => ?_⟩
  have hts : (takeBatch 0 i X).shape = [1, k] := by rw [takeBatch_shape, hXs]; rfl
  show mm2 A (takeBatch 0 i X) W = _
  rw [MatMul.mm2_ok A (takeBatch 0 i X) W 1 k m hts hWs]
  refine congrArg Except.ok (ofFn_eq_takeBatch (s := [n, m]) (ax := 0) hi fun idx hidx => ?_)
  obtain ⟨he, h0, _⟩ := InRange2_inv idx 1 m hidx
  apply MatMul.sumRange_congr
  intro l hl
  rw [he, Nat.lt_one_iff.1 h0]
  show A.mul ((takeBatch 0 i X).get [0, l]) _ = _
  rw [takeBatch_get 0 i X [0, l] (by rw [hXs]; exact ⟨Nat.one_pos, hl, trivial⟩)]
  rfl

theorem matmul_weight_pointwise [Inhabited α] (A : Arith α) (W : Tensor α) (hW : Good W) :
    BatchPointwise 0 0 (fun X => mm2 A X W) :=
  mm2_perSample A W fun k m h => hW.2 m (by rw [h]; simp)

end Gonnx.Proofs.Batch

namespace Gonnx.Proofs.Batch2
open Gonnx Gonnx.Spec Gonnx.Proofs Gonnx.Proofs.Batch
variable {α β : Type} [Inhabited α] [Inhabited β]

omit [Inhabited α] in
theorem equiv_refl (a : Tensor β) (h : a.WF) : Equiv a a := Equiv.refl h

omit [Inhabited α] [Inhabited β] in
theorem Good_of_shape {a : Tensor β} (s : List Nat) (hs : a.shape = s) (hW : a.WF) (hp : ∀ d ∈ s, 0 < d) :
    Good a := ⟨hW, by rw [hs]; exact hp⟩

/-! ### elementwise binary operators -/

/-- The result on a broadcast of rank `r` with batch axis `ax` of extent `N` is good, has that rank and extent, and
its sample `n` is the result on what the operands contribute to that sample, whether they carry the batch or not
(`SampleOf`). Shapes: `Compatible` and `bshape` are computed from the padded shapes, which for the contributions
are those of the operands with batch extent 1. -/
theorem binary_sample (f : α → α → β) {A B : Tensor α} {ax r N : Nat}
    (hr : max A.shape.length B.shape.length = r) (hN : dim (bshape A.shape B.shape) ax = N)
    (gA : Good A) (gB : Good B) (hax : ax < r)
    {Y : Tensor β} (hY : applyBinary f .multi A B = .ok Y) :
    Good Y ∧ ax < Y.shape.length ∧ dim Y.shape ax = N ∧
    ∀ n A' B', n < N → SampleOf ax n r A A' → SampleOf ax n r B B' →
      applyBinary f .multi A' B' = .ok (takeBatch ax n Y) := by
  subst hr hN
  rw [applyBinary_dense f A B gA.2 gB.2 gA.1 gB.1] at hY
  split at hY
  case isFalse => cases hY
  next hc =>
  cases hY
  refine ⟨Good_ofFn _ _ (bshape_spec hc gA.2 gB.2).1, by rw [ofFn_shape, length_bshape]; exact hax, rfl,
    fun n A' B' hn hA hB => ?_⟩
  have hsh : bshape A'.shape B'.shape = (bshape A.shape B.shape).set ax 1 := by
    unfold bshape
    simp only [hA.length, hB.length, hA.padShape, hB.padShape]
    exact zipWith_set _ _ _ _ _ _
  have hc' : Compatible A'.shape B'.shape = true := by
    unfold Compatible at hc ⊢
    simp only [hA.length, hB.length, hA.padShape, hB.padShape] at hc ⊢
    rw [zipWith_set]
    exact all_set_true _ _ hc
  have gA' := hA.good gA
  have gB' := hB.good gB
  obtain ⟨_, uA, uB⟩ := bshape_spec hc' gA'.2 gB'.2
  rw [applyBinary_dense f A' B' gA'.2 gB'.2 gA'.1 gB'.1, if_pos hc']
  rw [hsh] at uA uB ⊢
  refine congrArg Except.ok (ofFn_eq_takeBatch hn fun idx hidx => ?_)
  have hl : idx.length = max A.shape.length B.shape.length := by
    rw [InRange_length hidx, List.length_set, length_bshape]
  rw [hA.get_pin idx hl (InRange_pin uA hidx), hB.get_pin idx hl (InRange_pin uB hidx)]

/-- rank and batch extent of the broadcast shape of a batch and an operand that does not carry it -/
theorem bshape_free {s w : List Nat} {ax : Nat} (hs : Pos s) (h : BatchFree w s.length ax) :
    max s.length w.length = s.length ∧ dim (bshape s w) ax = dim s ax := by
  refine ⟨Nat.max_eq_left h.1, ?_⟩
  rw [dim_bshape s w h.1 ax h.lt, h.2]
  have := Pos_dim hs h.lt
  omega

/-- weight on the right -/
theorem binary_weight_pointwise (f : α → α → β) (W : Tensor α) (hW : Good W) :
    ∀ X Y, Good X →
      (W.shape.length < X.shape.length ∨ (W.shape.length = X.shape.length ∧ dim W.shape 0 = 1)) →
      applyBinary f .multi X W = .ok Y →
      Good Y ∧ 0 < Y.shape.length ∧ dim Y.shape 0 = dim X.shape 0 ∧
      ∀ n, n < dim X.shape 0 → applyBinary f .multi (takeBatch 0 n X) W = .ok (takeBatch 0 n Y) := by
  intro X Y hX hbf hY
  have hbf := BatchFree.lead hbf
  obtain ⟨hm, hd⟩ := bshape_free hX.2 hbf
  obtain ⟨gY, lY, dY, sY⟩ := binary_sample f hm hd hX hW hbf.lt hY
  exact ⟨gY, lY, dY, fun n hn => sY n _ _ hn (.batched rfl hn) (.free hbf)⟩

/-- weight on the left -/
theorem binary_weight_left_pointwise (f : α → α → β) (W : Tensor α) (hW : Good W) :
    ∀ X Y, Good X →
      (W.shape.length < X.shape.length ∨ (W.shape.length = X.shape.length ∧ dim W.shape 0 = 1)) →
      applyBinary f .multi W X = .ok Y →
      Good Y ∧ 0 < Y.shape.length ∧ dim Y.shape 0 = dim X.shape 0 ∧
      ∀ n, n < dim X.shape 0 → applyBinary f .multi W (takeBatch 0 n X) = .ok (takeBatch 0 n Y) := by
  intro X Y hX hbf hY
  have hbf := BatchFree.lead hbf
  obtain ⟨hm, hd⟩ := bshape_free hX.2 hbf
  obtain ⟨gY, lY, dY, sY⟩ := binary_sample f ((Nat.max_comm ..).trans hm) ((bshape_comm ..).symm ▸ hd) hW hX
    hbf.lt hY
  exact ⟨gY, lY, dY, fun n hn => sY n _ _ hn (.free hbf) (.batched rfl hn)⟩

/-! ### a kernel against a weight, unidirectional broadcasting (bias add of Gemm, …) -/

theorem uniCompat_sample {s w : List Nat} {ax : Nat} (hbf : BatchFree w s.length ax) (hc : UniCompat s w) :
    UniCompat (s.set ax 1) w := by
  refine ⟨by rw [List.length_set]; exact hc.1, fun j hj => ?_⟩
  rw [List.length_set] at hj ⊢
  rw [dim_set]
  split
  · next e => rw [e.1]; exact .inr hbf.2
  · exact hc.2 j hj

theorem uni_perSample (f : α → α → α) (W : Tensor α) (hW : W.WF) (ax : Nat) :
    PerSampleOn (BatchFree W.shape ·.length ax) ax ax (fun X => applyBinary f .uni X W) := by
  intro X Y hX hbf hY
  simp only [applyBinary_uni_dense f X W hX.1 hW] at hY
  split at hY
  case isFalse => cases hY
  next hc =>
  cases hY
  refine ⟨Good_ofFn _ _ hX.2, hbf.lt, rfl, fun n hn => ?_⟩
  show applyBinary f .uni (takeBatch ax n X) W = _
  rw [applyBinary_uni_dense f _ W (takeBatch_good ax n X hX).1.1 hW,
    if_pos (show UniCompat (takeBatch ax n X).shape W.shape from uniCompat_sample hbf hc)]
  refine congrArg Except.ok (ofFn_eq_takeBatch hn fun idx hidx => ?_)
  rw [takeBatch_get ax n X idx hidx,
    pin_set_free n (by rw [InRange_length hidx, List.length_set]; exact hbf)]

/-! ### Gemm, LinearRegressor, Scaler: MatMul, then scaling, then a bias -/

/-- a vector of attributes against a batch of rows (the intercepts of LinearRegressor, offsets and scales of Scaler) -/
theorem vec_perSample (f : α → α → α) (v : List α) :
    PerSampleOn (·.length = 2) 0 0 (fun X => applyBinary f .uni X ⟨[v.length], v⟩) :=
  (uni_perSample f ⟨[v.length], v⟩ (MatMul.vec_WF v) 0).mono fun s h => .lead (.inl (by simp [h]))

theorem Good_opT (t : Bool) (W : Tensor α) (hW : Good W) : Good (if t then transpose2 W else W) := by
  cases t with
  | false => exact hW
  | true => exact Good_ofFn _ _ fun d hd => hW.2 d (List.mem_reverse.1 hd)

theorem gemmTail_perSample (A : Arith α) (alpha beta : α) (c : Option (Tensor α))
    (hc : ∀ t, c = some t → Good t ∧ BatchFree t.shape 2 0) :
    PerSampleOn (·.length = 2) 0 0 (fun P => MatMul.gemmTail A alpha beta P c) := by
  have hu := (unary_pointwise 0 fun v => A.mul v alpha).on.mono (dom' := (·.length = 2)) (by intro s h; omega)
  cases c with
  | none => exact hu
  | some t =>
    obtain ⟨gt, bft⟩ := hc t rfl
    refine hu.comp (uni_perSample A.add (t.map fun v => A.mul v beta) (Tensor.map_WF _ gt.1) 0) ?_ fun _ => rfl
    intro X Y _ h2 e
    cases e
    show BatchFree t.shape X.shape.length 0
    rwa [h2]

theorem gemm_weight_pointwise (A : Arith α) (alpha beta : α) (tB : Bool) (W : Tensor α) (c : Option (Tensor α))
    (hW : Good W)
    (hc : ∀ t, c = some t → Good t ∧ (t.shape.length < 2 ∨ (t.shape.length = 2 ∧ dim t.shape 0 = 1))) :
    BatchPointwise 0 0 (fun X => gemmOp A alpha beta false tB X W c) := by
  refine (matmul_weight_pointwise A _ (Good_opT tB W hW)).on.comp
    (gemmTail_perSample A alpha beta c fun t ht => ⟨(hc t ht).1, .lead (hc t ht).2⟩)
    (fun X Y _ _ h => MatMul.mm2_rank A _ _ _ h) fun X => MatMul.gemmOp_eq A alpha beta false tB X W c

theorem linreg_pointwise (A : Arith α) (coef icpt : List α) (targets : Nat) :
    BatchPointwise 0 0 (fun X => linregOp A coef icpt targets X) := by
  by_cases ht : targets = 0
  · intro X Y _ _ h
    simp only [MatMul.linregOp_eq, if_pos ht] at h
    cases h
  by_cases hcl : targets * (coef.length / targets) ≠ coef.length
  · intro X Y _ _ h
    simp only [MatMul.linregOp_eq, if_neg ht, if_pos hcl] at h
    cases h
  refine (mm2_perSample A (transpose2 ⟨[targets, coef.length / targets], coef⟩) ?_).on.comp
    (vec_perSample A.add icpt)
    (fun X Y _ _ h => MatMul.mm2_rank A _ _ _ h)
    fun X => (MatMul.linregOp_eq A coef icpt targets X).trans ((if_neg ht).trans (if_neg hcl))
  intro k m h
  cases h
  omega

theorem scaler_pointwise (A : Arith α) (offset scale : List α) :
    ∀ X Y, Good X → X.shape.length = 2 → scalerOp A offset scale X = .ok Y →
      Good Y ∧ 0 < Y.shape.length ∧ dim Y.shape 0 = dim X.shape 0 ∧
      ∀ n, n < dim X.shape 0 → scalerOp A offset scale (takeBatch 0 n X) = .ok (takeBatch 0 n Y) :=
  (vec_perSample A.sub offset).comp (vec_perSample A.mul scale)
    (fun X Y hX hd h => by rw [applyBinary_uni_shape A.sub h]; exact hd) fun X => MatMul.scalerOp_eq A offset scale X

/-! ### Flatten with axis 1 -/

omit [Inhabited α] in
theorem flatten1_eq (X : Tensor α) (d : Nat) (rest : List Nat) (hs : X.shape = d :: rest) :
    flattenOp X 1 = .ok ⟨[d, prod rest], X.data⟩ := by
  rw [Shape.flattenOp_eq, hs, Spec.flattenShape, if_neg (by simp only [List.length_cons]; omega)]
  simp [Shape.outcome, C07.withShape, prod]

theorem flatten1_pointwise : BatchPointwise (α := α) (β := α) 0 0 (fun X => flattenOp X 1) := by
  intro X Y hX hax h
  obtain ⟨s, data⟩ := X
  cases s with
  | nil => simp at hax
  | cons d rest =>
    simp only [flatten1_eq ⟨d :: rest, data⟩ d rest rfl] at h
    cases h
    have hd : 0 < d := hX.2 d (by simp)
    have hrest : 0 < prod rest := prod_pos fun x hx => hX.2 x (by simp [hx])
    have hW : data.length = d * prod rest := hX.1
    refine ⟨⟨by simpa [Tensor.WF] using hW, (MatMul.Pos2 _ _).2 ⟨hd, hrest⟩⟩, by simp, rfl, fun n hn => ?_⟩
    simp only [flatten1_eq (takeBatch 0 n ⟨d :: rest, data⟩) 1 rest rfl]
    -- the sample is the same block of the buffer under either shape
    refine congrArg Except.ok (congrArg (Tensor.mk [1, prod rest]) ?_)
    show (takeBatch 0 n ⟨d :: rest, data⟩).data = (takeBatch 0 n ⟨[d, prod rest], data⟩).data
    rw [takeBatch_zero_data, takeBatch_zero_data, prod_cons, prod_nil, Nat.mul_one]

end Gonnx.Proofs.Batch2

namespace Gonnx.Proofs.Batch3
open Gonnx Gonnx.Spec Gonnx.Proofs Gonnx.Proofs.Batch Gonnx.Proofs.Batch2
variable {α β : Type} [Inhabited α] [Inhabited β]

/-- two operands that both carry the batch: both contribute their own sample -/
theorem binary_both_batched_pointwise (f : α → α → β) :
    ∀ X Z Y, Good X → Good Z → X.shape.length = Z.shape.length → 0 < X.shape.length →
      dim X.shape 0 = dim Z.shape 0 → applyBinary f .multi X Z = .ok Y →
      Good Y ∧ 0 < Y.shape.length ∧ dim Y.shape 0 = dim X.shape 0 ∧
      ∀ n, n < dim X.shape 0 →
        applyBinary f .multi (takeBatch 0 n X) (takeBatch 0 n Z) = .ok (takeBatch 0 n Y) := by
  intro X Z Y hX hZ hlen hr hd hY
  have hd0 : dim (bshape X.shape Z.shape) 0 = dim X.shape 0 := by
    rw [dim_bshape _ _ (by omega) 0 hr, hlen, padShape_self, ← hd, Nat.max_self]
  obtain ⟨gY, lY, dY, sY⟩ := binary_sample f (by omega) hd0 hX hZ hr hY
  exact ⟨gY, lY, dY, fun n hn => sY n _ _ hn (.batched rfl hn) (.batched hlen.symm (hd ▸ hn))⟩

end Gonnx.Proofs.Batch3
