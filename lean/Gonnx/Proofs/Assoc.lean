/-
Association lists read with `List.lookup`. One notion carries the section: a list whose keys are
distinct is a finite map (`lookup_eq_some_iff_mem`), so its lookups do not depend on its order.
-/
namespace Gonnx.Proofs
variable {κ β γ : Type} [BEq κ] [LawfulBEq κ]

theorem mem_of_lookup {a : κ} {b : β} {l : List (κ × β)} (h : l.lookup a = some b) : (a, b) ∈ l := by
  obtain ⟨l₁, l₂, rfl, _⟩ := List.lookup_eq_some_iff.1 h
  simp

theorem lookup_eq_none_of_not_mem (l : List (κ × β)) (a : κ) (h : a ∉ l.map (·.1)) : l.lookup a = none := by
  rw [List.lookup_eq_none_iff]
  intro p hp
  simpa using fun heq => h (List.mem_map.mpr ⟨p, hp, heq.symm⟩)

theorem lookup_eq_some_iff_mem {l : List (κ × β)} (hn : (l.map (·.1)).Nodup) (a : κ) (b : β) :
    l.lookup a = some b ↔ (a, b) ∈ l := by
  refine ⟨mem_of_lookup, fun h => ?_⟩
  obtain ⟨l₁, l₂, rfl⟩ := List.append_of_mem h
  refine List.lookup_eq_some_iff.2 ⟨l₁, l₂, rfl, fun p hp => ?_⟩
  rw [List.map_append, List.map_cons, List.nodup_append] at hn
  simpa using fun heq => hn.2.2 p.1 (List.mem_map_of_mem hp) a List.mem_cons_self heq.symm

theorem lookup_perm (a : κ) {l l' : List (κ × β)} (h : l.Perm l') (hn : (l.map (·.1)).Nodup) :
    l.lookup a = l'.lookup a :=
  Option.ext fun b => by
    rw [lookup_eq_some_iff_mem hn, lookup_eq_some_iff_mem ((h.map _).nodup_iff.1 hn), h.mem_iff]

omit [LawfulBEq κ] in
theorem lookup_map_snd (f : β → γ) (a : κ) (l : List (κ × β)) :
    List.lookup a (l.map fun p => (p.1, f p.2)) = (List.lookup a l).map f := by
  induction l with
  | nil => rfl
  | cons p l ih =>
    obtain ⟨k, b⟩ := p
    simp only [List.map_cons, List.lookup_cons, ih]
    cases a == k <;> rfl

/-- a table searched with `find?` on its keys is read with `lookup` -/
theorem find?_key_eq_lookup [DecidableEq κ] (l : List (κ × β)) (a : κ) :
    (l.find? (·.1 = a)).map (·.2) = l.lookup a := by
  induction l with
  | nil => rfl
  | cons p l ih =>
    rw [List.find?_cons, List.lookup_cons]
    by_cases h : p.1 = a
    · simp [h]
    · have : (a == p.1) = false := by simpa using fun h' => h h'.symm
      simp [h, this, ih]

end Gonnx.Proofs
