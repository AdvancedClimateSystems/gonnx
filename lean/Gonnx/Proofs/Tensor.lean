import Gonnx.Kernel
import Gonnx.Proofs.Lists
/-
A dense tensor is the table of a function of the index: `t = ofFn t.shape t.get` (`ofFn_get_self`), and two tables
of one shape are equal when their functions agree in range (`ofFn_congr`). The rest follows from these two. Results
are stated either as `t.Is u f` (shape and elements, no density needed) or, for dense tensors, as the equation
`t = ofFn u f` (`Tensor.Is.eq_ofFn`); `Equiv`, in which the property theorems are phrased, is equality of dense
tensors (`equiv_iff`). A kernel is characterised on tables, where it is a fact about `List.map` (`map_ofFn`,
`zipSame_ofFn`); on dense operands it is that fact with the operands rewritten to tables.
-/
namespace Gonnx.Proofs
open Gonnx

def Pos (s : List Nat) : Prop := ∀ n ∈ s, 0 < n

instance (s : List Nat) : Decidable (Pos s) := inferInstanceAs (Decidable (∀ n ∈ s, 0 < n))

theorem Pos_nil : Pos [] := fun _ h => nomatch h

theorem Pos_cons {n : Nat} {s : List Nat} (hn : 0 < n) (hs : Pos s) : Pos (n :: s) :=
  List.forall_mem_cons.2 ⟨hn, hs⟩

theorem Pos_dim {s : List Nat} (h : Pos s) {j : Nat} (hj : j < s.length) : 0 < dim s j :=
  h _ (dim_mem hj)

theorem Pos_of_dim {l : List Nat} (h : ∀ j, j < l.length → 0 < dim l j) : Pos l := by
  intro d hd
  obtain ⟨j, hj, rfl⟩ := List.getElem_of_mem hd
  rw [← dim_of_lt hj]
  exact h j hj

/-- a shape with more than one element has an axis with more than one position -/
theorem exists_dim_ge_two (shape : List Nat) (hpos : Pos shape) (h : 2 ≤ prod shape) :
    ∃ j, j < shape.length ∧ 2 ≤ dim shape j := by
  induction shape with
  | nil => exact absurd h (by decide)
  | cons a s ih =>
    by_cases ha : 2 ≤ a
    · exact ⟨0, Nat.succ_pos _, ha⟩
    · have ha1 : a = 1 := by have := hpos a List.mem_cons_self; omega
      rw [prod_cons, ha1, Nat.one_mul] at h
      obtain ⟨j, hj, h2⟩ := ih (fun n hn => hpos n (List.mem_cons_of_mem _ hn)) h
      exact ⟨j + 1, Nat.succ_lt_succ hj, h2⟩

variable {α β : Type}

/-! ### tables -/

theorem ofFn_congr {s : List Nat} {f g : List Nat → α} (h : ∀ idx, InRange idx s → f idx = g idx) :
    ofFn s f = ofFn s g :=
  congrArg (Tensor.mk s) (List.map_congr_left fun idx hi => h idx (mem_allIdx.1 hi))

/-- the model side has been computed as a table that agrees, index by index, with the table the spec prescribes:
the model returns the spec's tensor itself -/
theorem ok_dense {ε : Type} {r : Except ε (Tensor β)} {u : List Nat} {f g : List Nat → β} (h : r = .ok (ofFn u f))
    (hfg : ∀ idx, InRange idx u → f idx = g idx) : r = .ok (ofFn u g) ∧ (ofFn u g).WF :=
  ⟨h.trans (congrArg Except.ok (ofFn_congr hfg)), ofFn_WF _ _⟩

theorem map_ofFn (g : α → β) (s : List Nat) (fa : List Nat → α) :
    (ofFn s fa).map g = ofFn s fun idx => g (fa idx) :=
  congrArg (Tensor.mk s) List.map_map

theorem _root_.Gonnx.Tensor.map_WF (f : α → β) {t : Tensor α} (h : t.WF) : (t.map f).WF :=
  (List.length_map f).trans h

theorem zipSame_ofFn (f : α → α → β) (s : List Nat) (fa fb : List Nat → α) :
    zipSame f (ofFn s fa) (ofFn s fb) = .ok (ofFn s fun idx => f (fa idx) (fb idx)) :=
  (if_pos rfl).trans (congrArg (Except.ok ∘ Tensor.mk s) (zipWith_tab f rfl rfl))

/-! ### a dense tensor is a table -/

variable [Inhabited α]

theorem ofFn_get_self (X : Tensor α) (h : X.WF) : ofFn X.shape X.get = X := by
  obtain ⟨s, data⟩ := X
  refine congrArg (Tensor.mk s) ?_
  show (allIdx s).map ((data.getD · default) ∘ ravel s) = data
  rw [← List.map_map, map_ravel_allIdx, ← show data.length = prod s from h, map_getD_range]

/-- `X` has shape `u` and, at every index of `u`, the element `f idx`. Not the equation `X = ofFn u f`: the
buffer of a tensor that is not dense is not determined by `get`, and the broadcast helpers are specified for
such operands too. For a dense `X` the two agree (`Tensor.Is.eq_ofFn`). -/
def _root_.Gonnx.Tensor.Is (X : Tensor α) (u : List Nat) (f : List Nat → α) : Prop :=
  X.shape = u ∧ ∀ idx, InRange idx u → X.get idx = f idx

theorem Is_self (X : Tensor α) : X.Is X.shape X.get := ⟨rfl, fun _ _ => rfl⟩

theorem _root_.Gonnx.Tensor.Is.congr {X : Tensor α} {u u' : List Nat} {f f' : List Nat → α} (h : X.Is u f)
    (hu : u = u') (hf : ∀ idx, InRange idx u' → f idx = f' idx) : X.Is u' f' := by
  subst hu; exact ⟨h.1, fun idx hi => (h.2 idx hi).trans (hf idx hi)⟩

theorem _root_.Gonnx.Tensor.Is.eq_ofFn {X : Tensor α} {u : List Nat} {f : List Nat → α} (h : X.Is u f)
    (hW : X.WF) : X = ofFn u f := by
  obtain ⟨rfl, hf⟩ := h
  rw [← ofFn_get_self X hW]
  exact ofFn_congr hf

/-- observably equal dense tensors are equal -/
theorem tensor_ext {a b : Tensor α} (hs : a.shape = b.shape) (ha : a.WF) (hb : b.WF)
    (h : ∀ idx, InRange idx a.shape → a.get idx = b.get idx) : a = b :=
  (Tensor.Is.eq_ofFn ⟨rfl, h⟩ ha).trans (Tensor.Is.eq_ofFn ⟨hs.symm, fun _ _ => rfl⟩ hb).symm

/-- the buffer of `X` read under another shape `s`: entry `idx` is the entry `φ idx` of `X`, for any `φ` that
preserves the flat offset -/
theorem reshape_Is (X : Tensor α) (s : List Nat) (φ : List Nat → List Nat)
    (hφ : ∀ idx, InRange idx s → ravel s idx = ravel X.shape (φ idx)) :
    (⟨s, X.data⟩ : Tensor α).Is s (fun idx => X.get (φ idx)) :=
  ⟨rfl, fun idx hi => congrArg (X.data.getD · default) (hφ idx hi)⟩

theorem reshape_eq_ofFn (X : Tensor α) (hW : X.WF) (s : List Nat) (hp : prod s = prod X.shape)
    (φ : List Nat → List Nat) (hφ : ∀ idx, InRange idx s → ravel s idx = ravel X.shape (φ idx)) :
    (⟨s, X.data⟩ : Tensor α) = ofFn s fun idx => X.get (φ idx) :=
  (reshape_Is X s φ hφ).eq_ofFn (hW.trans hp.symm)

theorem map_eq_ofFn (f : α → β) {t : Tensor α} (hW : t.WF) :
    t.map f = ofFn t.shape fun idx => f (t.get idx) :=
  (congrArg (Tensor.map f) (ofFn_get_self t hW).symm).trans (map_ofFn f _ _)

/-- zipping the buffers of two dense tensors of one shape zips their elements -/
theorem zipWith_eq_ofFn (f : α → α → β) {A B : Tensor α} {u : List Nat} {fa fb : List Nat → α}
    (hA : A.Is u fa) (hB : B.Is u fb) (wA : A.WF) (wB : B.WF) :
    (⟨u, List.zipWith f A.data B.data⟩ : Tensor β) = ofFn u fun idx => f (fa idx) (fb idx) := by
  rw [hA.eq_ofFn wA, hB.eq_ofFn wB]
  exact congrArg (Tensor.mk u) (zipWith_tab f rfl rfl)

/-- the kernel on dense operands of one shape, as an equation -/
theorem zipSame_eq_ofFn (f : α → α → β) {A B : Tensor α} (hs : A.shape = B.shape) (wA : A.WF) (wB : B.WF) :
    zipSame f A B = .ok (ofFn A.shape fun idx => f (A.get idx) (B.get idx)) := by
  rw [zipSame, if_pos hs, zipWith_eq_ofFn f (Is_self A) ⟨hs.symm, fun _ _ => rfl⟩ wA wB]

variable [Inhabited β]

theorem _root_.Gonnx.Tensor.get_map (f : α → β) {t : Tensor α} (h : t.WF) {idx : List Nat}
    (hi : InRange idx t.shape) : (t.map f).get idx = f (t.get idx) := by
  rw [map_eq_ofFn f h, get_ofFn _ _ _ hi]

/-! ### `Equiv` -/

/-- two tensors are observably equal: same shape, dense, same element at every in-range index -/
def Equiv (s t : Tensor β) : Prop :=
  s.shape = t.shape ∧ s.WF ∧ t.WF ∧ ∀ idx, InRange idx s.shape → s.get idx = t.get idx

theorem equiv_iff {a b : Tensor β} : Equiv a b ↔ a = b ∧ a.WF :=
  ⟨fun ⟨hs, ha, hb, h⟩ => ⟨tensor_ext hs ha hb h, ha⟩, fun ⟨e, h⟩ => e ▸ ⟨rfl, h, h, fun _ _ => rfl⟩⟩

theorem Equiv.eq {a b : Tensor β} (h : Equiv a b) : a = b := (equiv_iff.1 h).1

theorem Equiv.refl {a : Tensor β} (h : a.WF) : Equiv a a := equiv_iff.2 ⟨rfl, h⟩

theorem equiv_ofFn {s : List Nat} {F G : List Nat → β} (h : ∀ idx, InRange idx s → F idx = G idx) :
    Equiv (ofFn s F) (ofFn s G) :=
  equiv_iff.2 ⟨ofFn_congr h, ofFn_WF _ _⟩

theorem _root_.Gonnx.Tensor.Is.equiv_ofFn {t : Tensor β} {u : List Nat} {f : List Nat → β} (h : t.Is u f)
    (hW : t.WF) : Equiv t (ofFn u f) :=
  equiv_iff.2 ⟨h.eq_ofFn hW, hW⟩

theorem equiv_of_ok {ε : Type} {r : Except ε (Tensor β)} {s : Tensor β} (h : r = .ok s ∧ s.WF) :
    ∃ m, r = .ok m ∧ Equiv m s :=
  ⟨s, h.1, Equiv.refl h.2⟩

end Gonnx.Proofs
