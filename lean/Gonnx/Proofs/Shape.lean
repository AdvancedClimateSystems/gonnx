import Gonnx.Ops.Shape
import Gonnx.Spec.Shape
import Gonnx.Proofs.Lists
import Gonnx.Proofs.MapM
-- not Proofs/Tensor: with it `Pos` in the statements below would silently be `Gonnx.Proofs.Pos`, not `C07.Pos`
/-
C07 (Reshape, Flatten, Squeeze, Unsqueeze): each operator returns `outcome t e o`, the input under
the shape the spec prescribes or the one error `e` (`flattenOp_eq`, `squeezeOp_eq`, `unsqueezeOp_eq`,
`reshapeOp_eq`); agreement with the spec and absence of panics are read off that.
-/
namespace Gonnx.C07
open Gonnx
variable {α : Type}

def Pos (s : List Nat) : Prop := ∀ n ∈ s, 0 < n

instance (s : List Nat) : Decidable (Pos s) := inferInstanceAs (Decidable (∀ n ∈ s, 0 < n))

/-- a 1-D int64 tensor holding `l` -/
def vec (l : List Int) : Tensor Int := ⟨[l.length], l⟩

/-- the tensor with the data of `t` and shape `s` -/
def withShape (t : Tensor α) (s : List Nat) : Tensor α := { t with shape := s }

end Gonnx.C07

namespace Gonnx.Proofs.Shape
open Gonnx Gonnx.C07 Gonnx.Proofs
variable {α : Type}

theorem iprod_toNat {s : List Int} (h : ∀ d ∈ s, 0 ≤ d) : iprod s = (prod (s.map Int.toNat) : Int) := by
  induction s with
  | nil => rfl
  | cons d s ih =>
    rw [List.forall_mem_cons] at h
    rw [iprod, ih h.2, List.map_cons, prod_cons, Int.natCast_mul, Int.toNat_of_nonneg h.1]

theorem gReshape_of_nonneg (t : Tensor α) {s : List Int} (h : ∀ d ∈ s, 0 ≤ d) :
    gReshape t s =
      if prod (s.map Int.toNat) = prod t.shape then .ok (withShape t (s.map Int.toNat)) else .error .shape := by
  have hn : s.any (· < 0) = false :=
    List.any_eq_false.mpr fun d hd => decide_eq_false (Int.not_lt.mpr (h d hd)) ▸ Bool.false_ne_true
  unfold gReshape
  simp only [iprod_toNat h, hn, ne_eq, Int.natCast_inj, ite_not, Bool.false_eq_true, if_false]
  rfl

theorem gReshape_nat (t : Tensor α) (s : List Nat) :
    gReshape t (s.map (fun (d : Nat) => (d : Int))) =
      if prod s = prod t.shape then .ok (withShape t s) else .error .shape := by
  rw [gReshape_of_nonneg t map_cast_nonneg, map_toNat_cast]

theorem gReshape_ok {t t' : Tensor α} {s : List Int} (h : gReshape t s = .ok t') :
    (∀ d ∈ s, 0 ≤ d) ∧ t' = withShape t (s.map Int.toNat) := by
  unfold gReshape at h
  have h := ok_of_ite_error h
  split at h
  · cases h
  · next hn =>
    cases h
    exact ⟨fun d hd => Int.not_lt.mp fun hd0 => hn (List.any_eq_true.mpr ⟨d, hd, decide_eq_true hd0⟩), rfl⟩

theorem gReshape_data {t t' : Tensor α} {s : List Int} (h : gReshape t s = .ok t') :
    t'.data = t.data := (gReshape_ok h).2 ▸ rfl

theorem reshapeOp_data {t t' : Tensor α} {s : Tensor Int} (h : reshapeOp t s = .ok t') :
    t'.data = t.data := by
  unfold reshapeOp at h
  have h := ok_of_ite_error h
  split at h
  · cases h
  · exact gReshape_data h

theorem flattenOp_data {t t' : Tensor α} {a : Int} (h : flattenOp t a = .ok t') :
    t'.data = t.data := by
  unfold flattenOp at h
  extract_lets rank a at h
  by_cases h0 : a = 0
  · rw [if_pos h0] at h; exact gReshape_data h
  · rw [if_neg h0] at h; exact gReshape_data (ok_of_ite_error h)

theorem squeezeOp_data {t t' : Tensor α} {a : Option (Tensor Int)} (h : squeezeOp t a = .ok t') :
    t'.data = t.data := by
  cases a with
  | none => exact gReshape_data h
  | some a => exact gReshape_data (ok_of_ite_error (ok_of_ite_error h))

theorem unsqueezeOp_data {t t' : Tensor α} {a : Tensor Int} (h : unsqueezeOp t a = .ok t') :
    t'.data = t.data :=
  gReshape_data (ok_of_ite_error (ok_of_ite_error (ok_of_ite_error (ok_of_ite_error h))))

/-- what an operator that only decides on a shape returns: the input under the shape `o`
prescribes, and the error `e` where `o` prescribes none -/
def outcome (t : Tensor α) (e : Err) : Option (List Nat) → Res (Tensor α)
  | some s => .ok (withShape t s)
  | none => .error e

theorem toOption_outcome (t : Tensor α) (e : Err) (o : Option (List Nat)) :
    (outcome t e o).toOption = o.map (withShape t) := by
  cases o <;> rfl

theorem outcome_ne_error (t : Tensor α) {e e' : Err} (h : e ≠ e') (o : Option (List Nat)) :
    outcome t e o ≠ .error e' := by
  cases o with
  | none => exact fun h' => h (Except.error.inj h')
  | some s => exact fun h' => nomatch h'

theorem ite_eq_outcome {p q : Prop} [Decidable p] [Decidable q] (h : p ↔ q) (t : Tensor α) (e : Err)
    (s : List Nat) :
    (if p then .ok (withShape t s) else .error e) = outcome t e (if q then some s else none) := by
  by_cases hp : p
  · rw [if_pos hp, if_pos (h.mp hp)]; rfl
  · rw [if_neg hp, if_neg (fun hq => hp (h.mpr hq))]; rfl

theorem gReshape_of_prod_eq (t : Tensor α) {s : List Nat} (h : prod s = prod t.shape) :
    gReshape t (s.map (fun (d : Nat) => (d : Int))) = .ok (withShape t s) := by
  rw [gReshape_nat, if_pos h]

/-- Flatten gives the ONNX shape for an axis in [-rank, rank] and panics (`inputShape[:axis]`) for
any other -/
theorem flattenOp_eq (t : Tensor α) (axis : Int) :
    flattenOp t axis = outcome t .panic (Spec.flattenShape t.shape axis) := by
  unfold flattenOp Spec.flattenShape
  simp only [Int.add_comm (t.shape.length : Int) axis]
  generalize ha : (if axis < 0 then axis + (t.shape.length : Int) else axis) = a
  have hr : (axis < -(t.shape.length : Int) ∨ axis > (t.shape.length : Int)) ↔
      (a < 0 ∨ a > (t.shape.length : Int)) := by
    subst ha
    split <;> omega
  -- gorgonia's count check passes at every `a`
  have hin := gReshape_of_prod_eq t (s := [prod (t.shape.take a.toNat), prod (t.shape.drop a.toNat)])
    (by rw [prod_cons, prod_cons, prod_nil, Nat.mul_one, ← prod_append, List.take_append_drop])
  by_cases hout : a < 0 ∨ a > (t.shape.length : Int)
  · rw [if_neg (fun h0 : a = 0 => by omega), if_pos hout, if_pos (hr.mpr hout)]
    rfl
  · rw [if_neg hout, if_neg (fun h => hout (hr.mp h))]
    -- the model's special case `a = 0` is the general formula: `take 0` is empty, `drop 0` is everything
    split
    · next h0 => subst h0; exact hin
    · exact hin

theorem flatten_eq_spec (t : Tensor α) (axis : Int) :
    (flattenOp t axis).toOption = (Spec.flattenShape t.shape axis).map (withShape t) := by
  rw [flattenOp_eq, toOption_outcome]

theorem normAxes_eq (r : Int) (axes : List Int) :
    Spec.normAxes r axes =
      if ∀ a ∈ axes, -r ≤ a ∧ a < r then
        if (axes.map (natAxis r)).Nodup then some (axes.map (natAxis r)) else none
      else none := by
  unfold Spec.normAxes
  simp only [List.all_eq_true, decide_eq_true_eq, eraseDups_length_eq_iff]

theorem vec_ok {l : List Int} (hne : l ≠ []) : ¬ prod (vec l).shape = 0 ∧ ¬ (vec l).shape = [] := by
  have : l.length ≠ 0 := fun h => hne (List.eq_nil_of_length_eq_zero h)
  exact ⟨by simpa [vec] using this, List.cons_ne_nil _ _⟩

/-- what is kept times what is dropped is the whole -/
theorem prod_filter_split {β : Type} (f : β → Nat) (p : β → Bool) (l : List β) :
    prod ((l.filter p).map f) * prod ((l.filter fun x => !p x).map f) = prod (l.map f) := by
  induction l with
  | nil => rfl
  | cons a l ih =>
    rw [List.map_cons, prod_cons, ← ih]
    cases h : p a <;> simp [h, Nat.mul_left_comm, Nat.mul_assoc]

theorem prod_dropped_eq_one {β : Type} (f : β → Nat) (p : β → Bool) (l : List β) :
    prod ((l.filter fun x => !p x).map f) = 1 ↔ ∀ x ∈ l, p x = false → f x = 1 := by
  rw [prod_eq_one_iff, List.forall_mem_map]
  simp only [List.mem_filter, Bool.not_eq_true', and_imp]

theorem prod_filter_of_ones {β : Type} (f : β → Nat) (p : β → Bool) (l : List β)
    (h : ∀ x ∈ l, p x = false → f x = 1) : prod ((l.filter p).map f) = prod (l.map f) := by
  rw [← prod_filter_split f p l, (prod_dropped_eq_one f p l).mpr h, Nat.mul_one]

/-- what is kept has the product of the whole, when that is positive, only if everything dropped counts 1 -/
theorem prod_filter_eq_iff {β : Type} (f : β → Nat) (p : β → Bool) (l : List β) (hpos : 0 < prod (l.map f)) :
    prod ((l.filter p).map f) = prod (l.map f) ↔ ∀ x ∈ l, p x = false → f x = 1 := by
  rw [← prod_filter_split f p l] at hpos ⊢
  rw [eq_comm, Nat.mul_eq_left (Nat.ne_of_gt (Nat.pos_of_mul_pos_right hpos)), prod_dropped_eq_one]

theorem prod_filter_ne_one (l : List Nat) : prod (l.filter (· ≠ 1)) = prod l := by
  have := prod_filter_of_ones id (· ≠ 1) l (fun x _ hx => by simpa using hx)
  simpa using this

theorem squeezeShape_all (cur : List Nat) :
    squeezeShape cur ((cur.zipIdx.filter fun (d, _) => d = 1).map fun (_, i) => (i : Int)) =
      cur.filter (· ≠ 1) := by
  have hfst : (cur.zipIdx.filter fun x => decide (x.1 ≠ 1)).map (·.1) = cur.filter (· ≠ 1) :=
    (List.filter_map (f := Prod.fst) (p := fun d => decide (d ≠ 1))).symm.trans (by rw [List.zipIdx_map_fst])
  rw [← hfst, squeezeShape]
  refine congrArg _ (List.filter_congr ?_)
  -- a position is listed exactly if the extent there is 1: `zipIdx` has one entry per position
  rintro ⟨d, i⟩ hx
  rw [List.mk_mem_zipIdx_iff_getElem?] at hx
  simp only [List.contains_eq_mem, List.mem_map, List.mem_filter, Prod.exists, List.mk_mem_zipIdx_iff_getElem?,
    Int.natCast_inj, decide_eq_true_eq, exists_eq_right, hx, Option.some.injEq, ne_eq, decide_not]

theorem squeeze_all (t : Tensor α) :
    squeezeOp t none = .ok (withShape t (t.shape.filter (· ≠ 1))) := by
  unfold squeezeOp
  simp only
  rw [squeezeShape_all, gReshape_of_prod_eq t (prod_filter_ne_one _)]

theorem squeezeShape_nat (cur nl : List Nat) :
    squeezeShape cur (nl.map (fun (d : Nat) => (d : Int))) =
      (cur.zipIdx.filter fun (_, i) => !nl.contains i).map (·.1) := by
  unfold squeezeShape
  simp only [List.contains_eq_mem, List.mem_map, Int.natCast_inj, exists_eq_right]

/-- Squeeze at given axes: they are only offset, neither range-checked nor checked for duplicates;
gorgonia's element count check is all that can fail -/
theorem squeezeOp_vec (t : Tensor α) (axes : List Int) (hne : axes ≠ []) :
    squeezeOp t (some (vec axes)) =
      gReshape t ((squeezeShape t.shape (axes.map fun v => if v < 0 then v + (t.shape.length : Int) else v)).map
        (fun (d : Nat) => (d : Int))) := by
  unfold squeezeOp
  simp only [Int.add_comm (t.shape.length : Int)]
  rw [if_neg (vec_ok hne).1, if_neg (vec_ok hne).2]
  rfl

theorem prod_squeezed_iff (cur nl : List Nat) (hpos : Pos cur) (hlt : ∀ a ∈ nl, a < cur.length) :
    prod ((cur.zipIdx.filter fun (_, i) => !nl.contains i).map (·.1)) = prod cur ↔
      ∀ a ∈ nl, cur.getD a 0 = 1 := by
  have hp := prod_filter_eq_iff (·.1) (fun x => !nl.contains x.2) cur.zipIdx
  rw [List.zipIdx_map_fst] at hp
  refine (hp (prod_pos hpos)).trans ?_
  simp only [Bool.not_eq_false', List.contains_eq_mem, decide_eq_true_eq, Prod.forall,
    List.mk_mem_zipIdx_iff_getElem?, List.getD_eq_getElem?_getD]
  constructor
  · intro h a ha
    rw [List.getElem?_eq_getElem (hlt a ha)]
    exact h _ a (List.getElem?_eq_getElem (hlt a ha)) ha
  · intro h d i hd hi
    have := h i hi
    rwa [hd] at this

/-- Squeeze at in-range, distinct axes of a tensor with positive extents gives the ONNX shape, and
the error of gorgonia's element count check when an extent to be removed is not 1 -/
theorem squeezeOp_eq (t : Tensor α) (axes : List Int) (hne : axes ≠ []) (hpos : Pos t.shape)
    (hvalid : (Spec.normAxes t.shape.length axes).isSome) :
    squeezeOp t (some (vec axes)) = outcome t .shape (Spec.squeezeShape t.shape (some axes)) := by
  rw [normAxes_eq] at hvalid
  by_cases hr : ∀ a ∈ axes, -(t.shape.length : Int) ≤ a ∧ a < t.shape.length
  case neg =>
    rw [if_neg hr] at hvalid
    cases hvalid
  by_cases hd : (axes.map (natAxis t.shape.length)).Nodup
  case neg =>
    rw [if_pos hr, if_neg hd] at hvalid
    cases hvalid
  have hlt : ∀ n ∈ axes.map (natAxis t.shape.length), n < t.shape.length :=
    List.forall_mem_map.mpr fun a ha => (natAxis_cast (hr a ha)).2
  unfold Spec.squeezeShape
  simp only [normAxes_eq, if_pos hr, if_pos hd, List.all_eq_true, decide_eq_true_eq]
  rw [squeezeOp_vec t axes hne, map_natAxis_cast hr, squeezeShape_nat, gReshape_nat]
  exact ite_eq_outcome (prod_squeezed_iff t.shape _ hpos hlt) t .shape _

/-- one step of `insertOnes`; the model's two copying branches (no axis left, next axis further on)
are one -/
theorem insertOnes_succ (orig sa : List Nat) (fuel i : Nat) :
    insertOnes orig sa (fuel + 1) i =
      if sa.head? = some i then 1 :: insertOnes orig sa.tail fuel (i + 1)
      else match orig with
        | [] => []
        | o :: os => o :: insertOnes os sa fuel (i + 1) := by
  cases sa with
  | nil => cases orig <;> rfl
  | cons a rest =>
    simp only [insertOnes, List.head?_cons, List.tail_cons, Option.some.injEq]
    rfl

/-- the ones do not change the element count (whatever the axes), provided the fuel covers the output -/
theorem insertOnes_prod (cur sa : List Nat) (fuel i : Nat) (hf : cur.length + sa.length ≤ fuel) :
    prod (insertOnes cur sa fuel i) = prod cur := by
  induction fuel generalizing cur sa i with
  | zero =>
    obtain rfl : cur = [] := List.eq_nil_of_length_eq_zero (by omega)
    rfl
  | succ fuel ih =>
    rw [insertOnes_succ]
    split
    · cases sa with
      | nil => contradiction
      | cons a rest => rw [prod_cons, Nat.one_mul, List.tail_cons, ih _ _ _ (Nat.le_of_succ_le_succ hf)]
    · cases cur with
      | nil => rfl
      | cons o os =>
        rw [List.length_cons, Nat.add_right_comm] at hf
        exact congrArg (o * ·) (ih _ _ _ (Nat.le_of_succ_le_succ hf))

/-- walking with a pointer through the axes among the positions from `i` on, in increasing order, is testing each
position for being an axis -/
theorem insertOnes_filter (n cur : List Nat) (fuel i m : Nat) (hm : fuel ≤ m) :
    insertOnes cur ((List.range' i m).filter (n.contains ·)) fuel i = Spec.unsqueezeShape.go n i fuel cur := by
  induction fuel generalizing cur i m with
  | zero => rfl
  | succ fuel ih =>
    obtain ⟨m, rfl⟩ : ∃ m', m = m' + 1 := ⟨m - 1, by omega⟩
    have hm := Nat.le_of_succ_le_succ hm
    rw [insertOnes_succ, List.range'_succ, List.filter_cons]
    show _ = if n.contains i = true then _ else _
    by_cases hc : n.contains i = true
    · rw [if_pos hc, if_pos hc, List.head?_cons, if_pos rfl, List.tail_cons, ih _ _ _ hm]
    · -- the positions left are beyond `i`
      have hh : ¬ ((List.range' (i + 1) m).filter (n.contains ·)).head? = some i := fun h =>
        Nat.not_succ_le_self i (List.mem_range'_1.mp (List.mem_filter.mp (List.mem_of_mem_head? h)).1).1
      rw [if_neg hc, if_neg hc, if_neg hh]
      cases cur with
      | nil => rfl
      | cons o os => exact congrArg (o :: ·) (ih _ _ _ hm)

/-- `insertSorted` is core's `merge` of a singleton -/
theorem insertSorted_eq_merge (x : Int) (l : List Int) :
    insertSorted x l = List.merge [x] l (fun a b => decide (a ≤ b)) := by
  induction l with
  | nil => rw [List.merge_right, insertSorted]
  | cons y ys ih =>
    rw [insertSorted, List.cons_merge_cons]
    by_cases h : x ≤ y
    · rw [if_pos h, if_pos (decide_eq_true h), List.nil_merge]
    · rw [if_neg h, if_neg (fun hd => h (of_decide_eq_true hd)), ih]

theorem sortInts_perm (l : List Int) : (sortInts l).Perm l := by
  induction l with
  | nil => exact List.Perm.refl _
  | cons x l ih =>
    show (insertSorted x (sortInts l)).Perm (x :: l)
    rw [insertSorted_eq_merge]
    exact (List.merge_perm_append _).trans (ih.cons x)

theorem sortInts_sorted (l : List Int) : (sortInts l).Pairwise (· ≤ ·) := by
  induction l with
  | nil => exact List.Pairwise.nil
  | cons x l ih =>
    show (insertSorted x (sortInts l)).Pairwise (· ≤ ·)
    rw [insertSorted_eq_merge]
    refine (List.pairwise_merge (le := fun a b => decide (a ≤ b)) ?_ ?_ [x] _ (List.pairwise_singleton _ _)
      (ih.imp decide_eq_true)).imp of_decide_eq_true
    · intro a b c hab hbc
      exact decide_eq_true (Int.le_trans (of_decide_eq_true hab) (of_decide_eq_true hbc))
    · intro a b
      rcases Int.le_total a b with h | h
      · rw [decide_eq_true h, Bool.true_or]
      · rw [decide_eq_true h, Bool.or_true]

/-- on a sorted list `Unsqueeze`'s duplicate check is exact -/
theorem hasDup_false_iff {l : List Int} (h : l.Pairwise (· ≤ ·)) : hasDuplicatesSorted l = false ↔ l.Nodup := by
  induction l with
  | nil => exact ⟨fun _ => .nil, fun _ => rfl⟩
  | cons a l ih =>
    rw [List.pairwise_cons] at h
    cases l with
    | nil => exact ⟨fun _ => List.pairwise_singleton _ _, fun _ => rfl⟩
    | cons b rest =>
      rw [hasDuplicatesSorted, Bool.or_eq_false_iff, ih h.2, List.nodup_cons (a := a), beq_eq_false_iff_ne]
      refine and_congr_left fun _ => ⟨fun hne hm => ?_, fun hm e => hm (e ▸ List.mem_cons_self)⟩
      -- `a ≤ b`, and `b` is the least of `b :: rest`, where `a` occurs
      have := h.1 b List.mem_cons_self
      have : b ≤ a := (List.mem_cons.mp hm).elim (fun e => e ▸ Int.le_refl _) ((List.pairwise_cons.mp h.2).1 a)
      omega

theorem nodup_map_cast (n : List Nat) : (n.map (fun (d : Nat) => (d : Int))).Nodup ↔ n.Nodup := by
  rw [List.Nodup, List.pairwise_map]
  exact List.Pairwise.iff fun {a b} => not_congr Int.natCast_inj

theorem hasDup_sortInts (n : List Nat) :
    hasDuplicatesSorted (sortInts (n.map (fun (d : Nat) => (d : Int)))) = true ↔ ¬ n.Nodup := by
  rw [← Bool.not_eq_false]
  exact not_congr ((hasDup_false_iff (sortInts_sorted _)).trans ((sortInts_perm _).nodup_iff.trans (nodup_map_cast n)))

/-- distinct axes below `R`, sorted, are the positions below `R` that are axes, in order: a sorted permutation is
unique -/
theorem sortInts_eq_filter {n : List Nat} {R : Nat} (hd : n.Nodup) (hlt : ∀ a ∈ n, a < R) :
    (sortInts (n.map (fun (d : Nat) => (d : Int)))).map Int.toNat = (List.range R).filter (n.contains ·) := by
  have hperm := (sortInts_perm (n.map (fun (d : Nat) => (d : Int)))).map Int.toNat
  rw [map_toNat_cast] at hperm
  refine List.Perm.eq_of_pairwise (le := (· ≤ ·)) (fun _ _ _ _ => Nat.le_antisymm)
    ((sortInts_sorted _).map Int.toNat fun _ _ => Int.toNat_le_toNat) (List.pairwise_le_range.filter _) (hperm.trans ?_)
  refine (List.perm_ext_iff_of_nodup hd (List.nodup_range.filter _)).mpr fun j => ?_
  rw [List.mem_filter, List.mem_range, List.contains_eq_mem, decide_eq_true_eq]
  exact ⟨fun h => ⟨hlt j h, h⟩, And.right⟩

/-- Unsqueeze gives the ONNX shape; out-of-range axes are reported as `axis`, duplicates as
`inputInvalid`. The output rank is a variable `R`: the operator spells its cast
`↑t.shape.length + ↑axes.length`, the spec `↑(t.shape.length + axes.length)`, and with `R` neither form occurs
in the statement. -/
theorem unsqueezeOp_eq (t : Tensor α) (axes : List Int) (hne : axes ≠ []) {R : Nat}
    (hR : R = t.shape.length + axes.length) :
    unsqueezeOp t (vec axes) =
      outcome t (if ∀ a ∈ axes, -(R : Int) ≤ a ∧ a < R then .inputInvalid else .axis)
        (Spec.unsqueezeShape t.shape axes) := by
  have hR' : (t.shape.length : Int) + (axes.length : Int) = (R : Int) := by
    rw [hR, Int.natCast_add]
  unfold unsqueezeOp Spec.unsqueezeShape
  rw [if_neg (vec_ok hne).1, if_neg (vec_ok hne).2]
  simp only [vec, hR', ← hR, Int.toNat_natCast, Bool.not_eq_true', ← Bool.not_eq_true, List.all_eq_true,
    decide_eq_true_eq, Int.le_sub_one_iff, ite_not, normAxes_eq]
  by_cases hr : ∀ a ∈ axes, -(R : Int) ≤ a ∧ a < R
  case neg => simp only [if_neg hr]; rfl
  simp only [if_pos hr]
  rw [map_natAxis_cast hr]
  simp only [hasDup_sortInts, ite_not]
  -- the duplicate check is exact; on distinct axes gorgonia's count check passes and the walk is the spec's
  split
  · next hd =>
    have hlt : ∀ a ∈ axes.map (natAxis R), a < R := List.forall_mem_map.mpr fun a ha => (natAxis_cast (hr a ha)).2
    rw [gReshape_of_prod_eq t (insertOnes_prod _ _ _ _ (by
        rw [List.length_map, (sortInts_perm _).length_eq, List.length_map, List.length_map, hR]
        exact Nat.le_refl _)),
      sortInts_eq_filter hd hlt, List.range_eq_range', insertOnes_filter _ _ _ _ _ (Nat.le_refl R)]
    rfl
  · rfl

theorem unsqueeze_eq_spec (t : Tensor α) (axes : List Int) (hne : axes ≠ []) :
    (unsqueezeOp t (vec axes)).toOption = (Spec.unsqueezeShape t.shape axes).map (withShape t) := by
  rw [unsqueezeOp_eq t axes hne rfl, toOption_outcome]

/-- the spec's out-of-range test for 0 entries, for a request whose first entry is at position `i` -/
def zeroOut (cur : List Nat) (i : Nat) (req : List Int) : Bool :=
  (req.zipIdx i).any fun (x : Int × Nat) =>
    match x with
    | (d, j) => decide (d = 0 ∧ j ≥ cur.length)

/-- the spec's "copied" request (0 ↦ input extent at the same position), likewise -/
def copied (cur : List Nat) (i : Nat) (req : List Int) : List Int :=
  (req.zipIdx i).map fun (x : Int × Nat) =>
    match x with
    | (d, j) => if d = 0 then ((cur.getD j 0 : Nat) : Int) else d

theorem zeroOut_cons (cur : List Nat) (i : Nat) (d : Int) (rest : List Int) :
    zeroOut cur i (d :: rest) = (decide (d = 0 ∧ i ≥ cur.length) || zeroOut cur (i + 1) rest) := rfl

theorem copied_cons (cur : List Nat) (i : Nat) (d : Int) (rest : List Int) :
    copied cur i (d :: rest) =
      (if d = 0 then ((cur.getD i 0 : Nat) : Int) else d) :: copied cur (i + 1) rest := rfl

/-- the first loop of `processShape` is the spec's test and copy -/
theorem copyZeros_eq (cur : List Nat) (req : List Int) (i : Nat) :
    copyZeros cur i req = if zeroOut cur i req = true then .error .shape else .ok (copied cur i req) := by
  induction req generalizing i with
  | nil => rfl
  | cons d rest ih =>
    rw [copyZeros, ih, zeroOut_cons, copied_cons]
    by_cases hd : d = 0
    · rw [if_pos hd, if_pos hd]
      by_cases hi : i < cur.length
      · rw [List.getElem?_eq_getElem hi, List.getD_eq_getElem?_getD, List.getElem?_eq_getElem hi,
          decide_eq_false (fun h => Nat.not_le_of_lt hi h.2), Bool.false_or]
        cases zeroOut cur (i + 1) rest <;> rfl
      · rw [List.getElem?_eq_none (Nat.le_of_not_lt hi), decide_eq_true ⟨hd, Nat.le_of_not_lt hi⟩]
        rfl
    · rw [if_neg hd, if_neg hd, decide_eq_false (fun h => hd h.1), Bool.false_or]
      cases zeroOut cur (i + 1) rest <;> rfl

theorem reshapeOp_vec (t : Tensor α) (req : List Int) (hne : req ≠ []) :
    reshapeOp t (vec req) =
      if zeroOut t.shape 0 req = true then .error .shape
      else match inferMinusOne (prod t.shape) (copied t.shape 0 req) with
        | .error e => .error e
        | .ok s => gReshape t s := by
  unfold reshapeOp processShape
  rw [if_neg (fun h => h.elim (vec_ok hne).2 (vec_ok hne).1)]
  show (match (match copyZeros t.shape 0 req with
      | .error e => .error e
      | .ok s => inferMinusOne (prod t.shape) s : Res (List Int)) with
    | .error e => .error e
    | .ok s => gReshape t s : Res (Tensor α)) = _
  rw [copyZeros_eq]
  cases zeroOut t.shape 0 req <;> rfl

/-- after the zeros are copied from positive extents: every entry is -1 or positive -/
def MinusOneOrPos (c : List Int) : Prop := ∀ d ∈ c, d = -1 ∨ 0 < d

/- `copied` is a map over the request paired with its positions, so what the proofs need of it is read
off entry by entry: no induction, no offset. -/

theorem copied_good (cur : List Nat) (hpos : Pos cur) (req : List Int) (i : Nat) (hge : ∀ d ∈ req, -1 ≤ d)
    (hz : zeroOut cur i req = false) : MinusOneOrPos (copied cur i req) := by
  intro x hx
  obtain ⟨⟨d, j⟩, hm, rfl⟩ := List.mem_map.mp hx
  have hj : ¬ (d = 0 ∧ j ≥ cur.length) := fun h => List.any_eq_false.mp hz _ hm (decide_eq_true h)
  show (if d = 0 then _ else d) = -1 ∨ 0 < (if d = 0 then _ else d)
  by_cases h0 : d = 0
  · have hi : j < cur.length := Nat.lt_of_not_le fun h => hj ⟨h0, h⟩
    rw [if_pos h0, List.getD_eq_getElem?_getD, List.getElem?_eq_getElem hi]
    exact Or.inr (Int.natCast_pos.mpr (hpos _ (List.getElem_mem hi)))
  · rw [if_neg h0]
    have := hge d (List.fst_mem_of_mem_zipIdx hm)
    omega

theorem copied_count (cur : List Nat) (req : List Int) (i : Nat) :
    ((copied cur i req).filter (· = -1)).length = (req.filter (· = -1)).length := by
  rw [← List.countP_eq_length_filter, ← List.countP_eq_length_filter, copied, List.countP_map]
  conv => rhs; rw [← List.zipIdx_map_fst i req, List.countP_map]
  refine List.countP_congr fun ⟨d, j⟩ _ => ?_
  show decide ((if d = 0 then _ else d) = -1) = true ↔ decide (d = -1) = true
  by_cases h0 : d = 0
  · rw [if_pos h0, decide_eq_false (by omega), decide_eq_false (by omega)]
  · rw [if_neg h0]

theorem mem_copied (cur : List Nat) {req : List Int} (i : Nat) {d : Int} (hd : d ∈ req) (h0 : d ≠ 0) :
    d ∈ copied cur i req := by
  obtain ⟨⟨d', j⟩, hm, rfl⟩ := List.mem_map.mp ((List.zipIdx_map_fst i req).symm ▸ hd)
  exact List.mem_map.mpr ⟨_, hm, if_neg h0⟩

theorem MinusOneOrPos.pos {l : List Int} (h : MinusOneOrPos l) (hn : (-1 : Int) ∉ l) : ∀ d ∈ l, 0 < d :=
  fun d hd => (h d hd).resolve_left fun e => hn (e ▸ hd)

theorem nonneg_of_pos {l : List Int} (h : ∀ d ∈ l, 0 < d) : ∀ d ∈ l, 0 ≤ d :=
  fun d hd => Int.le_of_lt (h d hd)

theorem prod_toNat_pos {l : List Int} (h : ∀ d ∈ l, 0 < d) : 0 < prod (l.map Int.toNat) := by
  apply prod_pos
  intro n hn
  obtain ⟨d, hd, rfl⟩ := List.mem_map.mp hn
  have := h d hd
  omega

theorem goDiv_pos (a : Nat) {d : Int} (h : 0 < d) : goDiv (a : Int) d = .ok ((a / d.toNat : Nat) : Int) := by
  unfold goDiv
  rw [if_neg (Int.ne_of_gt h), Int.natCast_ediv, Int.toNat_of_nonneg (Int.le_of_lt h),
    Int.tdiv_eq_ediv_of_nonneg (Int.natCast_nonneg a)]

/-- past the inferred position: divide by everything, a second -1 is an error -/
theorem divideOthers_after (i j : Nat) (l : List Int) (a : Nat) (h : i < j) (hg : MinusOneOrPos l) :
    divideOthers i j l (a : Int) =
      if (-1 : Int) ∈ l then .error .shape else .ok ((a / prod (l.map Int.toNat) : Nat) : Int) := by
  induction l generalizing j a with
  | nil => simp [divideOthers]
  | cons d rest ih =>
    rw [divideOthers, if_neg (Nat.ne_of_gt h)]
    by_cases hd : d = -1
    · rw [if_pos hd, if_pos (hd ▸ List.mem_cons_self)]
    · have hpos : 0 < d := (hg d List.mem_cons_self).resolve_left hd
      rw [if_neg hd, goDiv_pos a hpos]
      simp only
      rw [ih (j + 1) _ (Nat.lt_succ_of_lt h) (fun x hx => hg x (List.mem_cons_of_mem _ hx))]
      simp only [List.mem_cons, Ne.symm hd, false_or, List.map_cons, prod_cons, Nat.div_div_eq_div_mul]

/-- the inferred position is skipped -/
theorem divideOthers_split (j : Nat) (pre post : List Int) (x : Int) (a : Nat)
    (hpre : ∀ d ∈ pre, 0 < d) (hg : MinusOneOrPos post) :
    divideOthers (j + pre.length) j (pre ++ x :: post) (a : Int) =
      if (-1 : Int) ∈ post then .error .shape
      else .ok ((a / (prod (pre.map Int.toNat) * prod (post.map Int.toNat)) : Nat) : Int) := by
  induction pre generalizing j a with
  | nil =>
    rw [List.nil_append, List.length_nil, Nat.add_zero, divideOthers, if_pos rfl,
      divideOthers_after j (j + 1) post a (Nat.lt_succ_self j) hg]
    simp only [List.map_nil, prod_nil, Nat.one_mul]
  | cons p pre ih =>
    rw [List.forall_mem_cons] at hpre
    have hp : p ≠ -1 := by omega
    rw [List.cons_append, divideOthers, if_neg (by simp only [List.length_cons]; omega), if_neg hp,
      goDiv_pos a hpre.1]
    simp only
    rw [show j + (p :: pre).length = (j + 1) + pre.length by simp only [List.length_cons]; omega,
      ih (j + 1) _ hpre.2]
    simp only [List.map_cons, prod_cons, Nat.div_div_eq_div_mul, Nat.mul_assoc]

/-- the second loop of `processShape` on a list with a -1: the first one is inferred -/
theorem inferMinusOne_split (T : Nat) (pre post : List Int) (hpre : ∀ d ∈ pre, 0 < d) (hg : MinusOneOrPos post) :
    inferMinusOne T (pre ++ (-1) :: post) =
      if (-1 : Int) ∈ post then .error .shape
      else .ok (pre ++ ((T / (prod (pre.map Int.toNat) * prod (post.map Int.toNat)) : Nat) : Int) :: post) := by
  have hf : (pre ++ (-1) :: post).findIdx? (· = -1) = some pre.length := by
    have hnone : pre.findIdx? (· = -1) = none :=
      List.findIdx?_eq_none_iff.mpr fun x hx => decide_eq_false fun e : x = -1 => by have := hpre x hx; omega
    rw [List.findIdx?_append, hnone]
    simp [List.findIdx?_cons]
  have h := divideOthers_split 0 pre post (-1) T hpre hg
  rw [Nat.zero_add] at h
  unfold inferMinusOne
  rw [hf]
  simp only
  rw [h]
  by_cases hp : (-1 : Int) ∈ post
  · simp only [if_pos hp]
  · simp only [if_neg hp]
    rw [List.set_append_right _ _ (Nat.le_refl _), Nat.sub_self, List.set_cons_zero]

theorem inferMinusOne_none (T : Nat) {c : List Int} (hc : (-1 : Int) ∉ c) : inferMinusOne T c = .ok c := by
  have : c.findIdx? (· = -1) = none :=
    List.findIdx?_eq_none_iff.mpr (fun x hx => decide_eq_false fun e : x = -1 => hc (e ▸ hx))
  unfold inferMinusOne
  rw [this]

/-- the spec's last step: a -1, if there is one, becomes the quotient by the known extents -/
def inferSpec (total : Nat) (c : List Int) : Option (List Nat) :=
  let known := prod ((c.filter (· ≠ -1)).map Int.toNat)
  if c.contains (-1) then
    if known = 0 ∨ total % known ≠ 0 then none
    else some (c.map fun d => if d = -1 then total / known else d.toNat)
  else if known = total then some (c.map Int.toNat) else none

theorem reshapeShape_eq (cur : List Nat) (req : List Int) :
    Spec.reshapeShape cur req =
      if (req.any fun x => decide (x < -1)) = true then none
      else if (req.filter (· = -1)).length > 1 then none
      else if zeroOut cur 0 req = true then none
      else inferSpec (prod cur) (copied cur 0 req) := rfl

theorem filter_ne_self {l : List Int} (h : (-1 : Int) ∉ l) : l.filter (· ≠ -1) = l :=
  List.filter_eq_self.mpr fun a ha => decide_eq_true fun e : a = -1 => h (e ▸ ha)

theorem filter_eq_nil {l : List Int} (h : (-1 : Int) ∉ l) : l.filter (· = -1) = [] :=
  List.filter_eq_nil_iff.mpr fun a ha => by simpa using fun e : a = -1 => h (e ▸ ha)

theorem map_infer {l : List Int} (h : (-1 : Int) ∉ l) (q : Nat) :
    (l.map fun d => if d = -1 then q else d.toNat) = l.map Int.toNat :=
  List.map_congr_left fun a ha => if_neg fun e : a = -1 => h (e ▸ ha)

theorem div_mul_eq_iff (T K : Nat) (hK : 0 < K) : T / K * K = T ↔ ¬ (K = 0 ∨ T % K ≠ 0) := by
  have := Nat.div_add_mod T K
  rw [Nat.mul_comm] at this
  omega

theorem count_split {pre post : List Int} (hpre : (-1 : Int) ∉ pre) :
    ((pre ++ (-1) :: post).filter (· = -1)).length > 1 ↔ (-1 : Int) ∈ post := by
  rw [List.filter_append, filter_eq_nil hpre, List.nil_append, List.filter_cons_of_pos (by decide),
    List.length_cons, gt_iff_lt, Nat.lt_add_left_iff_pos, List.length_filter_pos_iff]
  exact ⟨fun ⟨x, hx, he⟩ => of_decide_eq_true he ▸ hx, fun h => ⟨_, h, by decide⟩⟩

/-- the spec's last step on a list with exactly one -1 -/
theorem inferSpec_split (T : Nat) {pre post : List Int} (hpre : (-1 : Int) ∉ pre) (hpost : (-1 : Int) ∉ post) :
    inferSpec T (pre ++ (-1) :: post) =
      if prod (pre.map Int.toNat) * prod (post.map Int.toNat) = 0 ∨
          T % (prod (pre.map Int.toNat) * prod (post.map Int.toNat)) ≠ 0 then none
      else some (pre.map Int.toNat ++
        T / (prod (pre.map Int.toNat) * prod (post.map Int.toNat)) :: post.map Int.toNat) := by
  have hfilt : (pre ++ (-1) :: post).filter (· ≠ -1) = pre ++ post := by
    rw [List.filter_append, List.filter_cons_of_neg (by decide), filter_ne_self hpre, filter_ne_self hpost]
  unfold inferSpec
  rw [if_pos (by simp), hfilt, List.map_append, prod_append, List.map_append, List.map_cons,
    map_infer hpre, map_infer hpost, if_pos rfl]

/-- the second loop of `processShape` and gorgonia's `Reshape`, against the spec's last step -/
theorem reshape_tail (t : Tensor α) (c : List Int) (hg : MinusOneOrPos c) :
    (match inferMinusOne (prod t.shape) c with
      | .error e => .error e
      | .ok s => gReshape t s : Res (Tensor α)) =
    if (c.filter (· = -1)).length > 1 then .error .shape
    else outcome t .shape (inferSpec (prod t.shape) c) := by
  by_cases hc : (-1 : Int) ∈ c
  · obtain ⟨pre, post, rfl, hpre⟩ := List.eq_append_cons_of_mem hc
    rw [MinusOneOrPos, List.forall_mem_append, List.forall_mem_cons] at hg
    have h1 := MinusOneOrPos.pos hg.1 hpre
    rw [inferMinusOne_split _ pre post h1 hg.2.2]
    simp only [count_split hpre]
    by_cases hp : (-1 : Int) ∈ post
    · rw [if_pos hp, if_pos hp]
    · have h2 := MinusOneOrPos.pos hg.2.2 hp
      have hK := Nat.mul_pos (prod_toNat_pos h1) (prod_toNat_pos h2)
      rw [if_neg hp, if_neg hp, inferSpec_split _ hpre hp]
      simp only
      -- gorgonia's count check on `pre ++ T / K :: post`, `K` the product of `pre` and `post`: `T / K * K = T`
      rw [gReshape_of_nonneg t (List.forall_mem_append.mpr ⟨nonneg_of_pos h1,
          List.forall_mem_cons.mpr ⟨Int.natCast_nonneg _, nonneg_of_pos h2⟩⟩),
        List.map_append, List.map_cons, Int.toNat_natCast, prod_append, prod_cons, Nat.mul_left_comm]
      generalize prod (pre.map Int.toNat) * prod (post.map Int.toNat) = K at hK ⊢
      rw [← ite_not (K = 0 ∨ _)]
      exact ite_eq_outcome (div_mul_eq_iff _ K hK) t .shape _
  · unfold inferSpec
    rw [inferMinusOne_none _ hc, filter_eq_nil hc, List.length_nil, if_neg (Nat.not_lt_zero 1),
      if_neg (by simpa using hc), filter_ne_self hc]
    simp only
    rw [gReshape_of_nonneg t (nonneg_of_pos (hg.pos hc))]
    exact ite_eq_outcome Iff.rfl t .shape _

/-- Reshape on positive extents, requests with entries ≥ -1: the ONNX shape, and the error `shape`
for every request ONNX declares invalid -/
theorem reshapeOp_eq (t : Tensor α) (req : List Int) (hpos : Pos t.shape) (hne : req ≠ [])
    (hge : ∀ d ∈ req, -1 ≤ d) :
    reshapeOp t (vec req) = outcome t .shape (Spec.reshapeShape t.shape req) := by
  have hany : ¬ (req.any fun x => decide (x < -1)) = true := by
    rw [List.any_eq_true]
    rintro ⟨d, hd, hlt⟩
    have := hge d hd
    have := of_decide_eq_true hlt
    omega
  rw [reshapeOp_vec t req hne, reshapeShape_eq, if_neg hany, ← copied_count t.shape req 0]
  cases hz : zeroOut t.shape 0 req with
  | true =>
    rw [if_pos rfl, if_pos rfl]
    split <;> rfl
  | false =>
    rw [if_neg Bool.false_ne_true, if_neg Bool.false_ne_true,
      reshape_tail t _ (copied_good _ hpos req 0 hge hz)]
    split <;> rfl

theorem mem_set_of_ne {l : List Int} {i : Nat} {d : Int} (r : Int) (hd : d ∈ l) (hi : l[i]? ≠ some d) :
    d ∈ l.set i r := by
  obtain ⟨k, hk⟩ := List.mem_iff_getElem?.mp hd
  exact List.mem_iff_getElem?.mpr ⟨k, by rw [List.getElem?_set_ne fun e : i = k => hi (e ▸ hk), hk]⟩

theorem inferMinusOne_keeps {T : Nat} {c s : List Int} (h : inferMinusOne T c = .ok s)
    {d : Int} (hd : d ∈ c) (hne : d ≠ -1) : d ∈ s := by
  unfold inferMinusOne at h
  split at h
  · cases h; exact hd
  · rename_i i hi
    split at h
    · cases h
    · cases h
      obtain ⟨hil, hpi, _⟩ := List.findIdx?_eq_some_iff_getElem.mp hi
      refine mem_set_of_ne _ hd fun e => hne ?_
      rw [List.getElem?_eq_getElem hil] at e
      exact (Option.some.inj e).symm.trans (of_decide_eq_true hpi)

/-- An entry below -1 is not 0, so the zero copy keeps it (`mem_copied`); it is not -1, so the inference
keeps it (`inferMinusOne_keeps`); and gorgonia's `Reshape` returns a tensor only for non-negative
dimensions (`gReshape_ok`). -/
theorem reshape_lt_not_ok (t : Tensor α) (req : List Int) (hne : req ≠ []) {d : Int} (hd : d ∈ req)
    (hlt : d < -1) (t' : Tensor α) : reshapeOp t (vec req) ≠ .ok t' := by
  rw [reshapeOp_vec t req hne]
  intro h
  have h := ok_of_ite_error h
  cases hs : inferMinusOne (prod t.shape) (copied t.shape 0 req) with
  | error e => rw [hs] at h; cases h
  | ok s =>
    rw [hs] at h
    have h1 := inferMinusOne_keeps hs (mem_copied t.shape 0 hd (by omega)) (by omega)
    have := (gReshape_ok h).1 d h1
    omega

theorem reshape_eq_spec (t : Tensor α) (req : List Int) (hpos : Pos t.shape) (hne : req ≠ []) :
    (reshapeOp t (vec req)).toOption = (Spec.reshapeShape t.shape req).map (withShape t) := by
  by_cases hge : ∀ d ∈ req, -1 ≤ d
  · rw [reshapeOp_eq t req hpos hne hge, toOption_outcome]
  · obtain ⟨d, hd, hl⟩ : ∃ d ∈ req, d < -1 := by
      simpa only [Classical.not_forall, Classical.not_imp, Int.not_le, exists_prop] using hge
    rw [reshapeShape_eq, if_pos (List.any_eq_true.mpr ⟨d, hd, decide_eq_true hl⟩)]
    cases h : reshapeOp t (vec req) with
    | error e => rfl
    | ok t' => exact absurd h (reshape_lt_not_ok t req hne hd hl t')

end Gonnx.Proofs.Shape
